import FlowRecordProofs.Lemmas.ComposeTs
import FlowRecord.Gen.Pipeline
/-!
C15 — record composition follows the documented precedence rules.
The models are the association lists of `Model/Compose.lean`. Values are opaque (`V` arbitrary). Field tuples are
`(type, name)` as `get_field_tuples()` returns them.
-/
open FlowRecord FlowRecord.Descriptor FlowRecord.Compose

/-- all field tuples of a descriptor list, in order -/
def C15_allTuples (descs : List (List (Str × Str))) : List (Str × Str) := descs.flatMap id

/-- Merged field ORDER, for every list of descriptors (repeated names and differing types included), with or
    without `replace`: the distinct field names in order of first appearance. -/
theorem C15_merge_order (replace : Bool) (descs : List (List (Str × Str))) :
    (mergeFields replace descs).map (·.2) = firstOcc ((C15_allTuples descs).map (·.2)) :=
  names_mergeFields replace descs

/-- … hence: the fields of the first descriptor (when its names are distinct) come first, in order, then the
    unseen names of the later descriptors in order of first appearance. -/
theorem C15_merge_first_then_unseen (replace : Bool) (d : List (Str × Str)) (ds : List (List (Str × Str)))
    (hd : (d.map (·.2)).Nodup) :
    (mergeFields replace (d :: ds)).map (·.2) =
      d.map (·.2) ++ (firstOcc ((C15_allTuples ds).map (·.2))).filter (fun n => !(d.map (·.2)).contains n) := by
  rw [C15_merge_order]
  unfold C15_allTuples
  simp only [List.flatMap_cons, id, List.map_append]
  rw [firstOcc_append, firstOcc_nodup_eq _ hd]

/-- FIRST WINS for field types: without `replace`, the type of every merged field is the type of its first
    occurrence among all field tuples. -/
theorem C15_merge_first_wins (descs : List (List (Str × Str))) (n : Str) :
    alGet (nameTypes (mergeFields false descs)) n = alGet (nameTypes (C15_allTuples descs)) n := by
  rw [nameTypes_mergeFields, mergeMap_flat, alGet_foldl_noreplace, alGet_nil, flatMap_nameTypes]
  rfl

/-- LAST WINS for field types under `replace=True`: the type of every merged field is the type of its last
    occurrence (its position stays that of the first occurrence, `C15_merge_order`). -/
theorem C15_merge_last_wins_on_replace (descs : List (List (Str × Str))) (n : Str) :
    alGet (nameTypes (mergeFields true descs)) n = alGet (nameTypes (C15_allTuples descs)).reverse n := by
  rw [nameTypes_mergeFields, mergeMap_flat, alGet_foldl_replace, alGet_nil, flatMap_nameTypes]
  exact Option.or_none

/-- no declared field name of any of the records is a reserved name (validation guarantees it, C06) -/
abbrev C15_noReserved {V : Type} (recs : List (Rec V)) : Prop := noReserved recs

/-- VALUES of an extended record, for every list of records: each slot (merged field or metadata field, other
    than the always re-stamped `_version`) holds the value found first when the records' slots are searched in
    priority order — the given order, reversed under `replace`. -/
theorem C15_extend_values {V : Type} (none : Str → V) (ver : V) (replace : Bool) (name : Option Str)
    (r : Rec V) (others : List (Rec V)) (k : Str) (v : V) (hnr : C15_noReserved (r :: others))
    (hk : k ∈ (mergeFields replace ((r :: others).map (·.fields))).map (·.2) ∨ k ∈ reservedNames)
    (hv : k ≠ versionName)
    (hget : alGet ((if replace then (r :: others).reverse else r :: others).flatMap (·.slots)) k = some v) :
    alGet (extendRecord none ver replace name r others).slots k = some v :=
  extend_values hnr hk hv hget

/-- FIRST WINS for values: the value comes from the first record that has the slot. -/
theorem C15_extend_first_wins {V : Type} (none : Str → V) (ver : V) (name : Option Str)
    (r : Rec V) (others pre post : List (Rec V)) (x : Rec V) (k : Str) (v : V) (hnr : C15_noReserved (r :: others))
    (hsplit : r :: others = pre ++ x :: post) (hpre : ∀ p ∈ pre, k ∉ keys p.slots) (hx : alGet x.slots k = some v)
    (hk : k ∈ (mergeFields false ((r :: others).map (·.fields))).map (·.2) ∨ k ∈ reservedNames)
    (hv : k ≠ versionName) :
    alGet (extendRecord none ver false name r others).slots k = some v := by
  apply C15_extend_values none ver false name r others k v hnr hk hv
  rw [if_neg Bool.false_ne_true, hsplit]
  exact alGet_flatMap_first Rec.slots hpre hx

/-- LAST WINS for values under `replace=True`: the value comes from the last record that has the slot. -/
theorem C15_extend_last_wins_on_replace {V : Type} (none : Str → V) (ver : V) (name : Option Str)
    (r : Rec V) (others pre post : List (Rec V)) (x : Rec V) (k : Str) (v : V) (hnr : C15_noReserved (r :: others))
    (hsplit : r :: others = pre ++ x :: post) (hpost : ∀ p ∈ post, k ∉ keys p.slots) (hx : alGet x.slots k = some v)
    (hk : k ∈ (mergeFields true ((r :: others).map (·.fields))).map (·.2) ∨ k ∈ reservedNames)
    (hv : k ≠ versionName) :
    alGet (extendRecord none ver true name r others).slots k = some v := by
  apply C15_extend_values none ver true name r others k v hnr hk hv
  rw [if_pos rfl, hsplit, List.reverse_append, List.reverse_cons, List.append_assoc]
  exact alGet_flatMap_first Rec.slots (fun p hp => hpost p (List.mem_reverse.mp hp)) hx

/-- The extended record's descriptor: merged fields, the first record's name unless renamed; its slots are the
    merged names followed by the reserved metadata fields; `_version` is re-stamped. -/
theorem C15_extend_shape {V : Type} (none : Str → V) (ver : V) (replace : Bool) (name : Option Str)
    (r : Rec V) (others : List (Rec V)) (hnr : C15_noReserved (r :: others)) :
    let out := extendRecord none ver replace name r others
    out.name = name.getD r.name ∧
    out.fields = mergeFields replace ((r :: others).map (·.fields)) ∧
    keys out.slots = out.fields.map (·.2) ++ reservedNames ∧
    alGet out.slots versionName = some ver :=
  ⟨rfl, rfl, keys_extend hnr, alGet_extend_version hnr⟩

/-- the datetime fields `iter_timestamped_records` loops over (`record._desc.getfields("datetime")`) -/
def C15_dtNames {V : Type} (r : Rec V) : List Str := ((fieldMap r.fields).filter (·.2 == dtType)).map (·.1)

/-- … for a well-formed record these are its datetime fields in field order -/
theorem C15_ts_field_order {V : Type} (r : Rec V) (hr : WF r) :
    C15_dtNames r = (r.fields.filter (·.1 == dtType)).map (·.2) := by
  rw [C15_dtNames, fieldMap_nodup r.fields hr.nodup, filter_nameTypes]
  exact keys_nameTypes _

/-- PER-TIMESTAMP EXPANSION (the loop as the code runs it: the loop's record is re-bound in every round, the
    timestamp and the metadata are read from the original). For every well-formed record, every value type, every
    position and name of its datetime fields — `ts` and `ts_description` included:
    no datetime field ⇒ the record itself; otherwise one output per datetime field, in field order, and output `i`
    is named like the original, has fields `ts, ts_description` + the original fields not called ts/ts_description,
    `ts` = the ORIGINAL record's value of the i-th datetime field, `ts_description` = that field's name, every other
    original field with its original value, and the original's `_source`, `_classification`, `_generated`. -/
theorem C15_ts {V : Type} (none : Str → V) (ver : V) (nameVal : Str → V) (r : Rec V) (hr : WF r) :
    (C15_dtNames r = [] → tsExpand none ver nameVal r = [r]) ∧
    (C15_dtNames r ≠ [] →
      (tsExpand none ver nameVal r).length = (C15_dtNames r).length ∧
      ∀ (i : Nat) (o : Rec V) (f : Str), (tsExpand none ver nameVal r)[i]? = some o → (C15_dtNames r)[i]? = some f →
        o.name = r.name ∧
        o.fields = tsFields ++ r.fields.filter notTs ∧
        alGet o.slots tsName = alGet r.slots f ∧
        alGet o.slots tsDescName = some (nameVal f) ∧
        (∀ g ∈ r.fields, notTs g = true → alGet o.slots g.2 = alGet r.slots g.2) ∧
        alGet o.slots (cps "_source") = alGet r.slots (cps "_source") ∧
        alGet o.slots (cps "_classification") = alGet r.slots (cps "_classification") ∧
        alGet o.slots (cps "_generated") = alGet r.slots (cps "_generated") ∧
        alGet o.slots versionName = some ver) := by
  have hsub : ∀ f ∈ C15_dtNames r, f ∈ r.fields.map (·.2) := fun f hf =>
    mem_keys_fieldMap.mp (List.map_subset _ List.filter_sublist.subset hf)
  have hexp : tsExpand none ver nameVal r =
      if (C15_dtNames r).isEmpty then [r] else tsLoop none ver nameVal r r (C15_dtNames r) := rfl
  refine ⟨fun h => by rw [hexp, h]; rfl, fun h => ?_⟩
  rw [hexp, if_neg (by simpa using h)]
  obtain ⟨hlen, hall⟩ := tsLoop_spec none ver nameVal hr ⟨hr, rfl, fun _ _ _ => rfl⟩ hsub
  refine ⟨hlen, fun i o f ho hf => ?_⟩
  have t := hall i o f ho hf
  exact ⟨t.name, t.fields, t.ts, t.desc, t.keeps, t.source, t.classification, t.generated, t.version⟩

/-- GROUPED RECORD, flat view: for well-formed members the flat descriptor is the first-wins merge of the members'
    descriptors (so `C15_merge_order` / `C15_merge_first_wins` describe its field order and types), and attribute
    access returns the value of the first member that has the slot — metadata fields included. -/
theorem C15_grouped_first_wins {V : Type} (members pre post : List (Rec V)) (x : Rec V) (k : Str) (v : V)
    (hwf : ∀ m ∈ members, WF m) (hsplit : members = pre ++ x :: post) (hpre : ∀ p ∈ pre, k ∉ keys p.slots)
    (hx : alGet x.slots k = some v) :
    groupedFields members = mergeFields false (members.map (·.fields)) ∧ groupedGet members k = some v :=
  ⟨groupedFields_eq members hwf, hsplit ▸ groupedGet_first hpre hx⟩

/-- A field rewriter takes the values of the record it rewrites from the record's DICTIONARY view
    (`init_from_dict(ChainMap(local_dict, record._asdict()))`, regenerated as `Gen.rewriterKeepsAllValues`) - for a
    grouped record that is the view of the theorem below, not attribute access on the group object (which serves the
    group's own `name`, `records`, ...). -/
theorem C15_rewriter_reads_the_dictionary_view : Gen.rewriterKeepsAllValues = true := by decide

/-- GROUPED RECORD, dictionary view: `_asdict()` holds, for EVERY key of the flat view - also one spelled like an
    attribute of the group object itself (`name`, `records`, `descriptors`, `flat_fields`) - the value of the first
    member that has the slot. (Before fix 619dd93 the value was read with `getattr(group, key)`; the premise is the
    regenerated source fact.) -/
theorem C15_grouped_asdict_from_provider {V : Type} (own : Str → V) (members pre post : List (Rec V)) (x : Rec V)
    (k : Str) (v : V) (hsplit : members = pre ++ x :: post) (hpre : ∀ p ∈ pre, k ∉ keys p.slots)
    (hx : alGet x.slots k = some v) :
    groupedAsdictGet own members k = some v := by
  have hgen : Gen.groupedAsdictFromProvider = true := by decide
  unfold groupedAsdictGet
  rw [if_pos hgen, hsplit]
  exact groupedGet_first hpre hx

/-- … whereas ATTRIBUTE access on the group cannot serve such a field: `group.name` is the group's own type name
    whatever the members hold (public API; recorded as a limitation, not repaired). -/
theorem C15_grouped_getattr_own_attribute_wins {V : Type} (own : Str → V) (members : List (Rec V)) :
    groupedGetattr own members (cps "name") = some (own (cps "name")) := by
  have h : groupOwnAttrs.contains (cps "name") = true := by
    simp only [groupOwnAttrs, Gen.groupedOwnAttrs, List.map]
    repeat rw [cps_ofList]
    decide
  unfold groupedGetattr
  rw [if_pos h]

/-- … and a name no member has is not an attribute of the group. -/
theorem C15_grouped_missing {V : Type} (members : List (Rec V)) (k : Str) (h : ∀ m ∈ members, k ∉ keys m.slots) :
    groupedGet members k = Option.none := by
  rw [groupedGet_eq, alGet_eq_none_iff, mem_keys_flatMap]
  rintro ⟨m, hm, hk⟩
  exact h m hm hk

/-- `_replace` changes ONLY the named slots: it fails exactly when a keyword is not a slot; otherwise descriptor and
    slot list are those of the original, a named slot holds the given value, every other slot (except the re-stamped
    `_version`) its original value. -/
theorem C15_replace_only_named {V : Type} (ver : V) (r : Rec V) (kvs : List (Str × V)) :
    (replaceRec ver r kvs = Option.none ↔ ∃ p ∈ kvs, p.1 ∉ keys r.slots) ∧
    (∀ out, replaceRec ver r kvs = some out →
      out.name = r.name ∧ out.fields = r.fields ∧ keys out.slots = keys r.slots ∧
      ∀ k ∈ keys r.slots, k ≠ versionName →
        (∀ v, alGet kvs k = some v → alGet out.slots k = some v) ∧
        (k ∉ keys kvs → alGet out.slots k = alGet r.slots k)) := by
  refine ⟨replaceRec_eq_none_iff ver r kvs, fun out hout => ?_⟩
  obtain ⟨hname, hfields, hkeys, hget⟩ := replaceRec_eq_some hout
  refine ⟨hname, hfields, hkeys, fun k hk hv => ?_⟩
  obtain ⟨w, hw⟩ := exists_alGet_of_mem hk
  rw [hget, hw, Option.map_some, if_neg hv]
  constructor
  · intro v hkv; rw [hkv]; rfl
  · intro hnk; rw [alGet_eq_none_iff.mpr hnk]; rfl

/-- PROJECTION (`rdump -F` / `-X`, `RecordFieldRewriter`): with a field list, the new descriptor has exactly the
    requested names that exist in the record and are not excluded, in the REQUESTED order, each with its type in the
    record; without a field list, the record's fields minus the excluded ones, in record order. -/
theorem C15_projection_fields (fields exclude : List Str) (desc : List (Str × Str)) :
    (fields ≠ [] →
      (projectFields fields exclude desc).map (·.2) =
        fields.filter (fun n => !exclude.contains n && (desc.map (·.2)).contains n) ∧
      ∀ f ∈ projectFields fields exclude desc, alGet (fieldMap desc) f.2 = some f.1) ∧
    (fields = [] → exclude ≠ [] → projectFields fields exclude desc = desc.filter (fun f => !exclude.contains f.2)) ∧
    (fields = [] → exclude = [] → projectFields fields exclude desc = desc) := by
  refine ⟨fun hf => ⟨?_, fun f hfm => mem_projectFields hf hfm⟩, fun hf _ => hf ▸ projectFields_nil exclude desc,
    fun hf hx => ?_⟩
  · rw [projectFields_of_ne_nil hf, List.map_filterMap, ← List.filterMap_eq_filter]
    -- a requested name gives a field exactly when it is not excluded and the descriptor has it
    congr 1
    funext n
    by_cases hx : n ∈ exclude
    · simp [hx, Option.guard]
    · by_cases hm : n ∈ desc.map (·.2)
      · obtain ⟨t, ht⟩ := exists_alGet_of_mem (mem_keys_fieldMap.mpr hm)
        simp [hx, ht, hm, Option.guard]
      · simp [hx, alGet_eq_none_iff.mpr (mt mem_keys_fieldMap.mp hm), hm, Option.guard]
  · rw [hf, hx, projectFields_nil]
    exact List.filter_eq_self.mpr fun _ _ => rfl

/-- … and projection changes no value: every slot of the projected record (kept field or metadata field, other
    than the re-stamped `_version`) holds the original record's value. -/
theorem C15_projection_values {V : Type} (none : Str → V) (ver : V) (fields exclude : List Str) (r : Rec V) (hr : WF r)
    (k : Str) (hk : k ∈ keys (rewrite none ver fields exclude r).slots) (hv : k ≠ versionName) :
    alGet (rewrite none ver fields exclude r).slots k = alGet r.slots k := by
  unfold rewrite at hk ⊢
  by_cases h0 : (fields.isEmpty && exclude.isEmpty) = true
  · rw [if_pos h0]
  · rw [if_neg h0] at hk ⊢
    have hnores : ∀ n ∈ (projectFields fields exclude r.fields).map (·.2), n ∉ reservedNames :=
      fun n hn => hr.nores n (names_projectFields_subset fields exclude r.fields n hn)
    refine alGet_initFromDict_eq rfl hv (iff_of_true hk (alGet_isSome_iff.mpr ?_))
    -- a slot of the projected record is a slot of the original
    rw [keys_initFromDict, keys_slotTypes _ hnores, List.mem_append, mem_firstOcc] at hk
    rw [hr.slots]
    exact List.mem_append.mpr (hk.imp_left (names_projectFields_subset fields exclude r.fields k))

/-- The source has the statements the model transcribes (`merge_record_descriptors`, `extend_record`, the prelude
    and loop facts of `iter_timestamped_records`, `_replace`, `init_from_dict`, `record_descriptor_for_fields`):
    re-decided on every run against the statements extracted from the working tree. -/
theorem C15_source_shape :
    Gen.mergeStatements = ["field_map = collections.OrderedDict()", "for desc in descriptors: for ftype, fname in desc.get_field_tuples(): if not replace and fname in field_map: continue field_map[fname] = ftype", "if name is None and descriptors: name = descriptors[0].name", "return RecordDescriptor(name, zip(field_map.values(), field_map.keys()))"] ∧
    Gen.extendStatements = ["records = (record, *other_records)", "descriptors = tuple((rec._desc for rec in records))", "ExtendedRecord = merge_record_descriptors(descriptors, replace, name)", "kv_maps = tuple((rec._asdict() for rec in records))", "if replace: kv_maps = kv_maps[::-1]", "return ExtendedRecord.init_from_dict(collections.ChainMap(*kv_maps))"] ∧
    Gen.tsPrelude = ["dt_fields = record._desc.getfields('datetime')", "if not dt_fields: yield record return", "record_name = record._desc.name", "original = record"] ∧
    Gen.tsLoopAssigns = ["ts_record", "record"] ∧
    Gen.tsValueSource = "original" ∧
    Gen.tsMetaKwargs = [("_source", "original"), ("_classification", "original"), ("_generated", "original")] ∧
    Gen.tsExtendArg = "record" ∧
    Gen.replaceStatements = ["result = self.__class__(*map(kwds.pop, self.__slots__, (getattr(self, k) for k in self.__slots__)))", "if kwds: raise ValueError('Got unexpected field names: {kwds!r}'.format(kwds=list(kwds)))", "return result"] ∧
    Gen.initFromDictStatements = ["if not raise_unknown: rdict = {k: v for k, v in rdict.items() if k in self.recordType.__slots__}", "return self.recordType(**rdict)"] ∧
    Gen.projectStatements = ["if not fields and (not exclude) and (not new_fields): return descriptor", "exclude = exclude or []", "desc_fields = []", "if fields: for fname in fields: if fname in exclude: continue field = descriptor.fields.get(fname, None) if field: desc_fields.append((field.typename, field.name)) else: desc_fields = [(ftype, fname) for ftype, fname in descriptor.get_field_tuples() if fname not in exclude]", "if new_fields: desc_fields.extend(new_fields)", "return RecordDescriptor(descriptor.name, desc_fields)"] :=
  ⟨rfl, rfl, rfl, rfl, rfl, rfl, rfl, rfl, rfl, rfl⟩

-- Non-vacuity: concrete records on which the hypotheses hold and the functions do what the theorems say (literals
-- handed over by `cps_ofList`).
namespace C15_nonvacuous
def rA : Rec Nat := ⟨cps "t/x", [(cps "datetime", cps "created"), (cps "datetime", cps "ts"), (cps "string", cps "a")],
  [(cps "created", 10), (cps "ts", 20), (cps "a", 30), (cps "_source", 1), (cps "_classification", 2),
   (cps "_generated", 3), (cps "_version", 4)]⟩
example : WF rA := by
  constructor
  all_goals simp only [rA, reservedNames, Gen.RESERVED_FIELDS, List.map]
  all_goals repeat rw [cps_ofList]
  all_goals decide
example : C15_dtNames rA = [cps "created", cps "ts"] := by
  simp only [C15_dtNames, rA, dtType]
  repeat rw [cps_ofList]
  decide
-- the fixed defect: the second expanded record carries the ORIGINAL value of the field named ts (20, not 10)
example : ((tsExpand (fun _ => 0) 4 (fun _ => 99) rA).map fun o => (alGet o.slots tsName, alGet o.slots (cps "a"),
    alGet o.slots (cps "_source"))) = [(some 10, some 30, some 1), (some 20, some 30, some 1)] := by
  -- plain: the literals that cost are inside `tsExpand` (`tsFields`, the metadata names), out of reach of `cps_ofList`
  decide +kernel
example : mergeFields false [[(cps "string", cps "a"), (cps "varint", cps "b")], [(cps "float", cps "b"), (cps "uint16", cps "c")]]
    = [(cps "string", cps "a"), (cps "varint", cps "b"), (cps "uint16", cps "c")] := by
  repeat rw [cps_ofList]
  decide
example : mergeFields true [[(cps "string", cps "a"), (cps "varint", cps "b")], [(cps "float", cps "b"), (cps "uint16", cps "c")]]
    = [(cps "string", cps "a"), (cps "float", cps "b"), (cps "uint16", cps "c")] := by
  repeat rw [cps_ofList]
  decide
example : projectFields [cps "a", cps "zz", cps "created"] [cps "created"] rA.fields = [(cps "string", cps "a")] := by
  simp only [rA]
  repeat rw [cps_ofList]
  decide
end C15_nonvacuous
