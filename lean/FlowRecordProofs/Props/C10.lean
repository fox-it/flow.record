import FlowRecordProofs.Lemmas.Readers
/-!
C10 — reading with a selector equals filtering afterwards; matching is pure.
The readers are the loops of `Model/Readers.lean`, configured by the structural facts extracted from the current
source (`Gen.Pipeline`): which `yield`s are guarded by `if not self.selector or self.selector.match(obj)`, which
matcher attributes `matches` re-assigns, which ones `eval/_eval` read and write. What an expression *means* is a
parameter (`Matcher`, C07).
-/
open FlowRecord FlowRecord.Readers

/-- Every reader shape (stream, JSON, Avro, CSV, SQLite), every source, every matcher — raising ones included:
    iterating with the selector gives exactly what iterating without it and testing each record afterwards gives:
    same records, same order, same terminal exception. Holds for every configuration in which all yields are
    guarded. -/
theorem C10_filter {I D P X R E : Type} [DecidableEq I] (cfg : Cfg) (h : cfg.AllGuarded)
    (dec : Decoders D P X R E) (m : Matcher R E) (src : Src I D P X R E) :
    read cfg dec (some m) src = filterRun m (read cfg dec none src) := by
  obtain ⟨hs, hj1, hj2, ha, hc, hq⟩ := h
  cases src with
  | stream fs => exact streamLoop_filter cfg.stream hs _ _ _ m [] fs
  | json ls => exact jsonLoop_filter cfg.json hj1 hj2 _ m [] ls
  | avro xs => simp only [Readers.read, ha]; exact mapLoop_filter _ m xs
  | csv xs => simp only [Readers.read, hc]; exact mapLoop_filter _ m xs
  | sqlite ts => simp only [Readers.read, sqliteLoop, hq]; exact mapLoop_filter _ m _

/-- Inst: in the current source every `yield` of every reader is guarded by the selector test on the yielded
    object, the stream reader registers descriptors in a branch that does not consult the selector, the JSON reader
    guards both its record and its plain-JSON fallback branch, SQLite's `read_table` does not look at the selector. -/
theorem C10_inst_all_guarded : genCfg.AllGuarded := by decide +kernel

/-- The property for the readers as they are in the source tree now. -/
theorem C10_filter_current {I D P X R E : Type} [DecidableEq I]
    (dec : Decoders D P X R E) (m : Matcher R E) (src : Src I D P X R E) :
    read genCfg dec (some m) src = filterRun m (read genCfg dec none src) :=
  C10_filter genCfg C10_inst_all_guarded dec m src

/-- Same values, same order: what a selector lets through is a sublist of what the reader yields without it, and
    for a matcher that never raises it is literally `List.filter`, with the reader's own error status unchanged. -/
theorem C10_order_preserved {I D P X R E : Type} [DecidableEq I]
    (dec : Decoders D P X R E) (m : Matcher R E) (src : Src I D P X R E) :
    (read genCfg dec (some m) src).out.Sublist (read genCfg dec none src).out ∧
    (∀ p : R → Bool, (∀ r ∈ (read genCfg dec none src).out, m r = .ok (p r)) →
      read genCfg dec (some m) src =
        ⟨(read genCfg dec none src).out.filter p, (read genCfg dec none src).err⟩) := by
  rw [C10_filter_current]
  exact ⟨filterAfter_sublist m _ _, fun p hp => filterAfter_total m p _ _ hp⟩

/-- Filtering records out never hides or causes a reader error: descriptor frames are registered, rows decoded and
    broken input reported exactly as without selector (here: a selector that rejects everything). -/
theorem C10_rejecting_selector_keeps_errors {I D P X R E : Type} [DecidableEq I]
    (dec : Decoders D P X R E) (src : Src I D P X R E) :
    read genCfg dec (some fun _ => .ok false) src = ⟨[], (read genCfg dec none src).err⟩ := by
  rw [(C10_order_preserved dec (fun _ => .ok false) src).2 (fun _ => false) (fun _ _ => rfl)]
  simp

/-- The guard flags carry the content: a reader with one unguarded yield (here: the JSON fallback branch, the way a
    per-adapter omission would look) does *not* have the property. -/
theorem C10_unguarded_counterexample :
    ∃ (cfg : JsonCfg) (m : Matcher Nat Unit) (ls : List (JsonLine Nat Nat Unit)),
      cfg.guardRecord = true ∧ jsonLoop cfg () (some m) [] ls ≠ filterRun m (jsonLoop cfg () none [] ls) :=
  ⟨⟨true, false⟩, fun _ => .ok false, [.plain (.ok 7)], rfl, by decide⟩

/-- SQLite: the result does not depend on how `fetchmany(batch_size)` cuts the rows into batches. -/
theorem C10_sqlite_batch_independent {X R E : Type} (mk : X → Except E R) (sel : Option (Matcher R E))
    (t1 t2 : List (List (List X))) (h : t1.map (·.flatMap id) = t2.map (·.flatMap id)) (g : Bool) :
    sqliteLoop g mk sel t1 = sqliteLoop g mk sel t2 := by
  have e : ∀ t : List (List (List X)), (t.flatMap fun b => b.flatMap id) = (t.map (·.flatMap id)).flatMap id :=
    fun t => (List.flatMap_map _ id t).symm
  simp only [sqliteLoop, e, h]

/-- `make_selector`: an absent or empty selector means "no filter"; the three ways of giving the same non-empty
    expression (text, `Selector`, `CompiledSelector`) are normalised to objects holding the same expression text;
    objects pass through unchanged unless compilation is forced; normalising twice changes nothing. -/
theorem C10_make_selector (s : String) (hs : s.isEmpty = false) (force : Bool) :
    makeSelector .absent force = none ∧ makeSelector (.text "") force = none ∧
    makeSelector (.text s) false = some (.interp s) ∧
    makeSelector (.text s) true = some (.compiled (some s)) ∧
    makeSelector (.interp s) force = makeSelector (.text s) force ∧
    makeSelector (.compiled s) force = some (.compiled (some s)) ∧
    (∀ a : SelArg, a.obj.isSome → makeSelector a false = a.obj) := by
  refine ⟨rfl, rfl, ?_, ?_, ?_, ?_, ?_⟩
  · simp [makeSelector, mkInterp, hs]
  · simp [makeSelector, mkCompiled, hs]
  · cases force <;> simp [makeSelector, mkInterp, mkCompiled, hs]
  · simp [makeSelector, mkCompiled, hs]
  · intro a ha
    cases a with
    | absent | text t => simp [SelArg.obj] at ha
    | interp t => simp [makeSelector, SelArg.obj, mkInterp]
    | compiled t => simp [makeSelector, SelArg.obj]

/-- Inst: the shape of `make_selector`, `Selector`, `CompiledSelector` that `makeSelector` / `runThreaded` /
    `runCompiled` transcribe: falsy → None, text → engine by `force_compiled`, a `Selector` is recompiled from its
    `expression_str` only when forced, anything else passes through; `Selector("")` means `"True"`,
    `CompiledSelector("")` matches everything; neither class defines `__bool__`/`__len__`; `Selector.match` reuses one
    matcher whose `matches` is called per record; every reader normalises its `selector=` argument with it and the
    stream adapter delegates to `RecordStreamReader`. -/
theorem C10_inst_selector_shape :
    Gen.makeSelectorChain =
      [("not selector", "ret = None"),
       ("isinstance(selector, string_types)", "ret = CompiledSelector(selector) if force_compiled else Selector(selector)"),
       ("isinstance(selector, Selector)", "if force_compiled:\n    ret = CompiledSelector(selector.expression_str)")] ∧
    Gen.makeSelectorDefaultIsArgument = true ∧ Gen.selectorEmptyDefault = "True" ∧
    Gen.selectorKeepsExpressionStr = true ∧ Gen.compiledEmptyIsNone = true ∧ Gen.compiledNoCodeMatchesAll = true ∧
    Gen.selectorObjectsAlwaysTruthy = true ∧ Gen.compiledObjectsAlwaysTruthy = true ∧
    Gen.selectorMatchReusesMatcher = true ∧ Gen.selectorMatchCallsMatches = true ∧
    Gen.compiledMatchCopiesNamespace = true ∧ Gen.matchesRebuildsNamespace = true ∧
    (∀ row ∈ Gen.readerNormalisesSelector, row.2 = true) ∧
    Gen.readerNormalisesSelector.map (·.1) = ["stream", "jsonfile", "avro", "csvfile", "sqlite"] ∧
    Gen.streamAdapterDelegates = true ∧ Gen.streamLoopCatches = ["EOFError"] ∧
    Gen.sqliteIterNestsTables = true ∧ Gen.sqliteReadTableBatches = true :=
  ⟨rfl, rfl, rfl, rfl, rfl, rfl, rfl, rfl, rfl, rfl, rfl, rfl, by decide, rfl, rfl, rfl, rfl, rfl⟩

/-- With no selector (None, "", or an empty `CompiledSelector`) every reader is the identity filter. -/
theorem C10_empty_selector {I D P X R E : Type} [DecidableEq I] (dec : Decoders D P X R E)
    (evalI evalC : String → Matcher R E) (src : Src I D P X R E) (a : SelArg)
    (ha : a = .absent ∨ a = .text "" ∨ a = .compiled "") :
    (read genCfg dec (readerSelector evalI evalC a) src).out = (read genCfg dec none src).out := by
  rcases ha with h | h | h <;> subst h
  · rfl
  · rfl
  · have : readerSelector evalI evalC (.compiled "") = some (fun _ => .ok true) := rfl
    rw [this, (C10_order_preserved dec _ src).2 (fun _ => true) (fun _ _ => rfl)]
    simp

/-- The attributes of the matcher object that never change after `__init__` as far as evaluation is concerned. -/
def C10_matcherConsts : List String :=
  Gen.matcherInitFields.filter fun f =>
    !Gen.matcherEvalStores.contains f && !Gen.matcherEvalMutates.contains f && !Gen.matcherResetFields.contains f

/-- Inst: every attribute that `eval/_eval` read is either re-assigned by `matches` before the expression is
    evaluated, or never written after `__init__`. (A cache attribute read by `_eval` but not reset would break this.) -/
theorem C10_inst_reads_covered :
    ∀ f ∈ Gen.matcherEvalReads, f ∈ Gen.matcherResetFields ∨ f ∈ C10_matcherConsts := by decide +kernel

/-- History independence of the interpreted engine. `Selector.match` reuses one matcher object; still, for every
    evaluation function whose result depends only on the attributes `eval/_eval` read (extracted) and that leaves
    the constant attributes alone — it may leave *anything* behind in the others: bound generator variables,
    half-built backtraces after an exception — matching a sequence of records with one reused `Selector` gives,
    record by record, what a fresh `Selector` gives. -/
theorem C10_history_independent {R S T : Type} (fresh : R → String → S) (eval : R → MState S → T × MState S)
    (hreads : ∀ r st st', (∀ f ∈ Gen.matcherEvalReads, st f = st' f) → (eval r st).1 = (eval r st').1)
    (hconst : ∀ r st, ∀ f ∈ C10_matcherConsts, (eval r st).2 f = st f)
    (init : MState S) (rs : List R) :
    runThreaded Gen.matcherResetFields fresh eval init rs
      = rs.map (matchFresh Gen.matcherResetFields fresh eval init) :=
  runThreaded_eq_map C10_inst_reads_covered hreads hconst init rs init fun _ _ _ => rfl

/-- ... and therefore independent of order and of what was matched before: the result for a record is the same at
    the end of any history as at the start. -/
theorem C10_order_independent {R S T : Type} (fresh : R → String → S) (eval : R → MState S → T × MState S)
    (hreads : ∀ r st st', (∀ f ∈ Gen.matcherEvalReads, st f = st' f) → (eval r st).1 = (eval r st').1)
    (hconst : ∀ r st, ∀ f ∈ C10_matcherConsts, (eval r st).2 f = st f)
    (init : MState S) (before : List R) (r : R) :
    (runThreaded Gen.matcherResetFields fresh eval init (before ++ [r])).getLast?
      = some (matchFresh Gen.matcherResetFields fresh eval init r) := by
  rw [C10_history_independent fresh eval hreads hconst]
  simp

/-- The reset is what carries the theorem: if `matches` did not re-assign `data` (reset list empty), an evaluation
    that reads the namespace it left behind makes the second result depend on the first record. -/
theorem C10_reset_needed :
    ∃ (fresh : Nat → String → Nat) (eval : Nat → MState Nat → Nat × MState Nat) (init : MState Nat) (rs : List Nat),
      (∀ r st st', (∀ f ∈ Gen.matcherEvalReads, st f = st' f) → (eval r st).1 = (eval r st').1) ∧
      runThreaded [] fresh eval init rs ≠ rs.map (matchFresh [] fresh eval init) :=
  ⟨fun r _ => r, fun r st => (st "data", fun f => if f = "data" then st f + r + 1 else st f), fun _ => 0, [1, 2],
   fun _ _ _ h => h "data" (by decide), by decide⟩

/-- The compiled engine: `match` evaluates in a copy of the selector's namespace (extracted), so whatever the
    evaluation does to its namespace, results are those of a fresh object. -/
theorem C10_compiled_history_independent {R N T : Type} (eval : R → N → T × N) (ns : N) (rs : List R) :
    runCompiled Gen.compiledMatchCopiesNamespace eval ns rs = rs.map (fun r => (eval r ns).1) := by
  have hflag : Gen.compiledMatchCopiesNamespace = true := by decide
  rw [hflag]
  exact runCompiled_eq_map eval ns rs

/-- Inst: no assignment, deletion or loop target in `matches`/`eval`/`_eval` is anything but a local name, an
    attribute of the matcher object or an item of one; no `setattr`/`delattr`. -/
theorem C10_inst_no_foreign_writes : ∀ t ∈ genTargets, t.isForeign = false := by decide +kernel

/-- Purity at the level of the matcher's own code: any sequence of writes to targets that occur in the matcher
    code leaves everything outside the matcher object and the local frame — the record in particular — as it was. -/
theorem C10_pure {S W : Type} (wr : String → S → W → W) (m : Machine S W) (ws : List (Target × S))
    (h : ∀ w ∈ ws, w.1 ∈ genTargets) : (execWrites wr m ws).world = m.world :=
  execWrites_world wr ws (fun w hw => C10_inst_no_foreign_writes w.1 (h w hw)) m

-- Non-vacuity: concrete runs of the loops, and an evaluation that meets the hypotheses of history independence.
namespace C10_nonvacuous
/-- A stream in which a rejected record is followed by a descriptor frame, a repeated header and further records;
    records decoded as (descriptor, payload). -/
def frames : List (Frame Nat String Nat String) :=
  [.magic, .desc 1 "a", .record 1 [] 10, .record 1 [] 11, .desc 2 "b", .magic, .record 2 [] 12, .record 1 [] 13, .record 3 [] 14,
   .record 1 [] 15, .record 1 [2] 16, .record 1 [4] 17]
def dec : Decoders String Nat Nat (String × Nat) String :=
  ⟨fun d p => (d, p), fun x => .ok ("avro", x), fun x => .ok ("csv", x),
   fun x => if x = 99 then .error "row" else .ok ("sql", x), "RecordDescriptorNotFound", "header"⟩
def odd : Matcher (String × Nat) String := fun r => if r.2 = 13 then .error "TypeError" else .ok (r.2 % 2 == 1)
example : read genCfg dec none (Src.stream (X := Nat) frames)
    = ⟨[("a", 10), ("a", 11), ("b", 12), ("a", 13)], some "RecordDescriptorNotFound"⟩ := by decide +kernel
example : read genCfg dec none (Src.stream (X := Nat) (frames.eraseIdx 8))
    = ⟨[("a", 10), ("a", 11), ("b", 12), ("a", 13), ("a", 15), ("a", 16)], some "RecordDescriptorNotFound"⟩ := by
  decide +kernel
example : read genCfg dec (some fun r => .ok (r.2 % 2 == 0)) (Src.stream (X := Nat) frames)
    = ⟨[("a", 10), ("b", 12)], some "RecordDescriptorNotFound"⟩ := by decide +kernel
example : read genCfg dec (some odd) (Src.stream (X := Nat) frames) = ⟨[("a", 11)], some "TypeError"⟩ := by decide +kernel
example : read genCfg dec (some odd) (Src.json (D := String) (P := Nat) (X := Nat)
      [.descriptor 1, .record 1 ("j", 1), .plain (.ok ("p", 2)), .record 1 ("j", 5), .record 2 ("j", 7)])
    = ⟨[("j", 1), ("j", 5)], some "RecordDescriptorNotFound"⟩ := by decide +kernel
example : read genCfg dec (some odd) (Src.sqlite (I := Nat) (D := String) (P := Nat) [[[1, 2], [3]], [[5, 99, 7]]])
    = ⟨[("sql", 1), ("sql", 3), ("sql", 5)], some "row"⟩ := by decide +kernel
/-- an evaluation that meets the hypotheses of `C10_history_independent` and leaves garbage behind -/
def leaky (r : Nat) (st : MState Nat) : Bool × MState Nat :=
  (st "data" % 2 == 0, fun f => if f = "data" then st f + r + 100 else st f)
example : (∀ r st st', (∀ f ∈ Gen.matcherEvalReads, st f = st' f) → (leaky r st).1 = (leaky r st').1) ∧
    (∀ r st, ∀ f ∈ C10_matcherConsts, (leaky r st).2 f = st f) := by
  refine ⟨fun r st st' h => ?_, fun r st f hf => ?_⟩
  · simp [leaky, h "data" (by decide)]
  · have : f ≠ "data" := by
      intro e; subst e; revert hf; decide
    simp [leaky, this]
example : runThreaded Gen.matcherResetFields (fun r _ => r) leaky (fun _ => 0) [1, 2, 4, 7]
    = [false, true, true, false] := by decide
end C10_nonvacuous
