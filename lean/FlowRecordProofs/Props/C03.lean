import FlowRecordProofs.Lemmas.Registry
import FlowRecord.Gen.Formats
/-!
C03 — every record is decoded with the descriptor it was written with.

A descriptor carries its 32-bit identifier hash as a *field* (`Desc.hash`), so every theorem below holds for ANY
assignment of hashes to descriptors — including assignments where different descriptors share an identifier.
Histories are lists of objects (records, records holding nested records, grouped records) of any length.
-/
open FlowRecord FlowRecord.Wire FlowRecord.Stream

/-- Inst: the registration guard of `pack_obj`, as read off the current source, compares the registered descriptor
    (not only the identifier). The history theorem depends on exactly this. -/
theorem C03_guard_compares_descriptor : Gen.writerGuardKind = "descriptor-comparison" := rfl

/-- The JSON packer makes the same test for EVERY record it packs: `if self.descriptors.get(identifier) != obj._desc:
    self.register(obj._desc, True)` is an unconditional statement of the record branch of `pack_obj`, ahead of the
    serialisation - not a test made only when the record's class changes (every grouped record is an instance of one
    class, whatever it groups), nor one behind a cache. -/
theorem C03_json_packer_tests_every_record : Gen.jsonPackerGuardsDescriptor = true := rfl

/-- The history theorem. For every write history and every assignment of identifier hashes: the reader, fed the
    frames the writer emitted, decodes every object with each of its descriptors (own, nested, grouped members)
    bound to *itself*. Hypothesis: inside one single object no two different descriptors share an identifier
    (such an object travels in one frame, which no registration order can disambiguate — see the counterexample). -/
theorem C03_own_descriptor (os : List PV) (reg : Registry)
    (hn : ∀ o ∈ os, NoInnerCollision (descsOf o)) :
    consume reg (emitAll reg os).2 = os.map (fun o => (o, (descsOf o).map some)) := by
  rw [← emitHist_all_ok, consume_emitHist C03_guard_compares_descriptor _ reg (by simpa using hn),
    List.filter_eq_self.mpr (by simp), List.map_map]
  rfl

/-- The same with FAILING writes in between: a write may raise while the object is being packed, after any number
    `k` of its descriptors were met and registered (their frames are on the stream, the object's frame is not), and
    the caller carries on with the same writer. Every object whose write succeeded is still decoded with each of its
    descriptors bound to itself — a later good record of a type whose first write attempt failed finds the descriptor
    frame the failed attempt left behind. No hypothesis on the failed objects. -/
theorem C03_own_descriptor_failed_writes (h : List (PV × Option Nat)) (reg : Registry)
    (hn : ∀ e ∈ h, e.2 = none → NoInnerCollision (descsOf e.1)) :
    consume reg (emitHist reg h).2 =
      (h.filter (fun e => e.2.isNone)).map (fun e => (e.1, (descsOf e.1).map some)) :=
  consume_emitHist C03_guard_compares_descriptor h reg hn

/-- Reader and writer registries still agree at the end of a history with failing writes. -/
theorem C03_registries_agree_failed_writes (h : List (PV × Option Nat)) (reg : Registry) :
    consumeReg reg (emitHist reg h).2 = (emitHist reg h).1 :=
  consumeReg_emitHist h reg

/-- a history without failing writes is `emitAll` -/
theorem C03_emitHist_all_ok (os : List PV) (reg : Registry) :
    emitHist reg (os.map (fun o => (o, none))) = emitAll reg os :=
  emitHist_all_ok os reg

/-- Definition before use: within the frames of one write, every descriptor frame precedes the object frame, and
    the object frame is last. -/
theorem C03_desc_before_use (reg : Registry) (o : PV) :
    ∃ ds : List Desc, (emit reg o).2 = ds.map AFrame.desc ++ [AFrame.obj o] :=
  ⟨(newDescs reg (descsOf o)).2, rfl⟩

/-- The reader's registry after consuming a history equals the writer's registry after producing it. -/
theorem C03_registries_agree (os : List PV) (reg : Registry) :
    consumeReg reg (emitAll reg os).2 = (emitAll reg os).1 :=
  emitHist_all_ok os reg ▸ consumeReg_emitHist (allOk os) reg

/-- The byte-level writer registers exactly what the abstract view says and writes one frame per abstract frame
    (plus the header frame of a fresh stream). -/
theorem C03_write_matches_emit (st st' : WState) (o : PV) (fs : List Bytes) (h : write st o = some (st', fs)) :
    st'.registry = (emit st.registry o).1 ∧
    fs.length = (if st.headerWritten then 0 else 1) + (emit st.registry o).2.length :=
  writeEntry_matches (e := (o, none)) h

/-- A write that raises matches the abstract view too: it registers what `emitFailed` says and writes one frame per
    descriptor frame of the abstract view (plus the header of a fresh stream), no object frame. -/
theorem C03_writeFailed_matches_emit (st st' : WState) (o : PV) (k : Nat) (fs : List Bytes)
    (h : writeFailed st o k = some (st', fs)) :
    st'.registry = (emitFailed st.registry o k).1 ∧
    fs.length = (if st.headerWritten then 0 else 1) + (emitFailed st.registry o k).2.length :=
  writeEntry_matches (e := (o, some k)) h

/-- a byte-level history without failing writes is `writeAll` -/
theorem C03_writeHist_all_ok (os : List PV) (st : WState) :
    writeHist st (os.map (fun o => (o, none))) = writeAll st os :=
  writeHist_all_ok os st

/-- an interleaved history of writes `(w, o)` on several writers, each with a registry of its own (`regs w`): the
    registries at the end and the frames emitted, each tagged with its writer -/
def emitMulti (regs : Nat → Registry) : List (Nat × PV) → (Nat → Registry) × List (Nat × AFrame)
  | [] => (regs, [])
  | (w, o) :: rest =>
    let r := emit (regs w) o
    let regs' := fun i => if i = w then r.1 else regs i
    let r2 := emitMulti regs' rest
    (r2.1, r.2.map (fun f => (w, f)) ++ r2.2)

/-- Several writers open at the same time: the frames of writer i in an interleaved history are the frames of the
    projection of the history to writer i run alone — what one writer has emitted never suppresses what another
    must emit. -/
theorem C03_writers_independent (hist : List (Nat × PV)) (regs : Nat → Registry) (i : Nat) :
    ((emitMulti regs hist).2.filter (fun f => f.1 == i)).map (·.2) =
      (emitAll (regs i) ((hist.filter (fun e => e.1 == i)).map (·.2))).2 := by
  induction hist generalizing regs with
  | nil => rfl
  | cons e rest ih =>
    obtain ⟨w, o⟩ := e
    -- the frames of this write all carry the tag `w`
    have htag : ∀ l : List AFrame,
        ((l.map fun f => (w, f)).filter fun f => f.1 == i).map (·.2) = if w = i then l else [] := by
      intro l
      split <;> simp [List.filter_map, Function.comp_def, *]
    rw [emitMulti, List.filter_append, List.map_append, htag, ih, List.filter_cons]
    by_cases hw : w = i
    · subst hw; simp [emitAll]
    · simp [hw, Ne.symm hw]

-- The hypothesis of `C03_own_descriptor` cannot be dropped: a holder whose two nested records have different
-- descriptors with one identifier travels in ONE frame; the reader has a single binding for that identifier.
namespace C03_witness
def dA : Desc := { name := [116], fields := [([115], [97])], hash := 7 }
def dB : Desc := { name := [116], fields := [([115], [98])], hash := 7 }
def dH : Desc := { name := [104], fields := [], hash := 1 }
def holder : PV := .record dH [.record dA [], .record dB []]
end C03_witness
open C03_witness in
theorem C03_inner_collision_counterexample :
    ¬ ((consume [] (emit [] holder).2).map (·.2) = [(descsOf holder).map some]) := by decide

-- non-vacuity: a history with two *different* descriptors sharing an identifier, in separate objects
open C03_witness in
example : (consume [] (emitAll [] [.record dA [], .record dB [], .record dA []]).2).map (·.2) =
    [[some dA], [some dB], [some dA]] := by decide

-- non-vacuity for failing writes: the first write of `dA` fails after its descriptor was registered; the good record
-- that follows emits no second descriptor frame and is decoded with `dA`; a failed holder registers only its own
open C03_witness in
example : ((emitHist [] [(.record dA [], some 1), (.record dA [], none)]).2.map
    (fun f => match f with | .desc d => some d | .obj _ => none)) = [some dA, none] := by decide
open C03_witness in
example : (consume [] (emitHist [] [(.record dA [], some 1), (.record dA [], none), (holder, some 1),
    (.record dB [], none)]).2).map (·.2) = [[some dA], [some dB]] := by decide
