import FlowRecordProofs.Lemmas.SelectorMissing
import FlowRecord.Model.Selector.Concrete
/-!
C08 — comparisons on a field the record lacks are false and never raise.

The sentinel's behaviour is the method table extracted from `class NoneObject`
(`Gen.noneObjectMethods`), the interpreted engine's operators are the extracted `AST_COMPARATORS`
(`Gen.comparatorShapes`); Python's dispatch is `richcmp` / `pyIn` (Model/Selector/PyOps.lean). Every theorem is
for **every** class table `T` (the special methods of all other values) and every other operand `v`.
-/
open FlowRecord FlowRecord.Selector

/-- Inst: the extracted `NoneObject` defines all six comparison hooks and `__contains__`, each `return False`
    (on the pinned tree `__le__`/`__ge__` were missing: finding #5, fixed). -/
theorem C08_sentinel_methods :
    (∀ op ∈ CmpOp.all, sentinelRaw op.dunder = some "False") ∧ sentinelRaw "__contains__" = some "False" :=
  ⟨sentinel_hooks, sentinel_contains_hook⟩

/-- Inst: the extracted `AST_COMPARATORS` gives the six rich comparisons to `operator.*` and guards `In`/`NotIn` with
    the sentinel test. -/
theorem C08_interpreted_operators :
    ∀ op ∈ SelOp.all, (Gen.comparatorShapes.lookup op.astName).bind cmpImplOfTarget = some (docImpl op) :=
  fun op _ => comparators_sel op

/-- Interpreted engine, the whole table: every operator, both operand positions, every other operand that leaves
    the comparison to the sentinel — the result is `False`, no error. -/
theorem C08_interpreted_table (T : ClassTable) (op : SelOp) (pos : Pos) (v : PVal) (hv : Foreign T v) :
    cell T .interpreted op pos v = .ok (.bool false) := by
  unfold cell
  simp only [interpCompare_doc]
  cases op with
  | cmp o =>
    cases pos
    · exact richcmp_missing_left
    · exact richcmp_missing_right hv
  | isin | notin => cases pos <;> simp [docImpl, applyCmpImpl, PVal.isMissing]

/-- The cells of the compiled engine that Python decides without asking the sentinel. -/
def C08_compiledExcluded (op : SelOp) (pos : Pos) : Prop := op = .notin ∨ (op = .isin ∧ pos = .left)

/-- Compiled engine: the six rich comparisons in both positions and `v in r.missing` are `False` without error. -/
theorem C08_compiled_table_partial (T : ClassTable) (op : SelOp) (pos : Pos) (v : PVal) (hv : Foreign T v)
    (hx : ¬ C08_compiledExcluded op pos) : cell T .compiled op pos v = .ok (.bool false) := by
  unfold cell
  cases op with
  | cmp o =>
    cases pos
    · exact richcmp_missing_left
    · exact richcmp_missing_right hv
  | isin =>
    cases pos
    · exact absurd (Or.inr ⟨rfl, rfl⟩) hx
    · simp [compiledCompare, pyIn_missing_right, Except.map]
  | notin => exact absurd (Or.inl rfl) hx

/-- Compiled engine, `r.missing in <list or tuple>`: `False` when no element is itself the sentinel and every
    element leaves `==` to the sentinel. -/
theorem C08_compiled_in_sequence (T : ClassTable) (xs : List PVal)
    (h : ∀ x ∈ xs, Foreign T x ∧ x.isMissing = false) :
    cell T .compiled .isin .left (.list xs) = .ok (.bool false) ∧
    cell T .compiled .isin .left (.tuple xs) = .ok (.bool false) := by
  simp [cell, compiledCompare, pyIn, listContains_missing h, Except.map]

/-- The property as stated: every cell of the table is `False` without error. -/
def C08_table_statement : Prop :=
  ∀ (T : ClassTable) (eng : Engine) (op : SelOp) (pos : Pos) (v : PVal), Foreign T v →
    cell T eng op pos v = .ok (.bool false)

/-- What is provable: the table minus exactly the compiled engine's `not in` cells and its `r.missing in v` cells. -/
theorem C08_table_partial (T : ClassTable) (eng : Engine) (op : SelOp) (pos : Pos) (v : PVal) (hv : Foreign T v)
    (hx : ¬ (eng = .compiled ∧ C08_compiledExcluded op pos)) : cell T eng op pos v = .ok (.bool false) := by
  cases eng with
  | interpreted => exact C08_interpreted_table T op pos v hv
  | compiled => exact C08_compiled_table_partial T op pos v hv (fun h => hx ⟨rfl, h⟩)

/-- Known finding (stays): in the compiled engine `v not in r.missing` is **True for every `v`** — Python negates
    the sentinel's `__contains__`; no method of the sentinel can change that. -/
theorem C08_compiled_notin_right_true (T : ClassTable) (v : PVal) :
    cell T .compiled .notin .right v = .ok (.bool true) := by
  simp [cell, compiledCompare, pyNotIn, pyIn_missing_right, Except.map]

/-- Known finding (stays): `r.missing not in [..]` is True in the compiled engine (the list's `__contains__`
    answers False, Python negates it). -/
theorem C08_compiled_notin_left_true (T : ClassTable) (xs : List PVal)
    (h : ∀ x ∈ xs, Foreign T x ∧ x.isMissing = false) :
    cell T .compiled .notin .left (.list xs) = .ok (.bool true) := by
  simp [cell, compiledCompare, pyNotIn, pyIn, listContains_missing h, Except.map]

/-- The trivial class table: no class answers anything (used for the witnesses). -/
def C08_T0 : ClassTable :=
  { cmp := fun _ _ _ => .notImpl, contains := fun _ => none, iter := fun _ => none, truthy := fun _ => true,
    ident := fun _ _ => false }

/-- The full statement is false of the model (and of the code): witness `r.missing not in [1]`, compiled engine. -/
theorem C08_table_counterexample : ¬ C08_table_statement := by
  intro h
  have h1 := h C08_T0 .compiled .notin .left (.list [.int 1]) (fun op => rfl)
  have h2 := C08_compiled_notin_left_true C08_T0 [.int 1] (List.forall_mem_singleton.2 ⟨fun op => rfl, rfl⟩)
  rw [h2] at h1
  cases h1

/-- Second finding: compiled `r.missing in v` raises TypeError when `v`'s class has a `__contains__` that rejects
    foreign operands (str, bytes) or when `v` is not a container at all (int, float, None, most field types):
    membership is decided by the right operand alone. -/
theorem C08_compiled_in_left_raises (T : ClassTable) (v : PVal)
    (hshape : ∀ xs, v ≠ .list xs ∧ v ≠ .tuple xs) (hm : v.isMissing = false)
    (hc : (∃ f, T.contains v = some f ∧ f .missing = .error .typeErr) ∨ (T.contains v = none ∧ T.iter v = none)) :
    (∃ e, cell T .compiled .isin .left v = .error e) ∧ (∃ e, cell T .compiled .notin .left v = .error e) := by
  have : ∃ e, pyIn T .missing v = .error e := by
    rw [pyIn_other hm (fun xs => (hshape xs).1) fun xs => (hshape xs).2]
    rcases hc with ⟨f, hf, hfm⟩ | ⟨h1, h2⟩
    · exact ⟨_, by simp only [hf, hfm]; rfl⟩
    · exact ⟨_, by simp only [h1, h2]; rfl⟩
  obtain ⟨e, he⟩ := this
  exact ⟨⟨e, by simp [cell, compiledCompare, he, Except.map]⟩, ⟨e, by simp [cell, compiledCompare, pyNotIn, he, Except.map]⟩⟩

/-- Why `Foreign` is needed: an operand whose class answers `!=` itself (a class with an `__eq__` that returns
    False for foreign objects inherits a `__ne__` that returns True — `command`, `net.ipaddress`, `net.ipnetwork`,
    records) makes `v != r.missing` True in both engines; the sentinel is never asked. -/
theorem C08_foreign_needed (T : ClassTable) (eng : Engine) (v : PVal) (hm : v.isMissing = false)
    (hne : T.cmp v .ne .missing = .val (.bool true)) :
    cell T eng (.cmp .ne) .right v = .ok (.bool true) := by
  have : richcmp T .ne v .missing = .ok (.bool true) := richcmp_of_val ((slot_of_not_missing hm).trans hne)
  cases eng
  · simp only [cell, interpCompare_doc]; exact this
  · exact this

/-- The interpreted engine's BinOp guard fires exactly when an operand is the sentinel. -/
theorem C08_binop_guard (v : PVal) :
    binopGuard .missing v = true ∧ binopGuard v .missing = true ∧
    (v.isMissing = false → ∀ w : PVal, w.isMissing = false → binopGuard v w = false) := by
  refine ⟨rfl, by simp [binopGuard, PVal.isMissing], ?_⟩
  intro h w hw
  simp [binopGuard, h, hw]

/-- `r.<f> <op> <c>` as an expression -/
def C08_cmpLeft (f : String) (op : SelOp) (c : Expr) : Expr := .compare (.attr (.name "r") f) [(op.astName, c)]
/-- `<c> <op> r.<f>` as an expression -/
def C08_cmpRight (f : String) (op : SelOp) (c : Expr) : Expr := .compare c [(op.astName, .attr (.name "r") f)]

/-- Interpreted engine, missing field on the left, **any** other operand expression `c` that evaluates at all
    (to any value `v`): the comparison evaluates to False without error — through the full interpreter model
    (Name `r`, Attribute with the sentinel default, Compare with the generated operator table), for every
    primitive semantics whose rich comparison is Python's dispatch over some class table. -/
theorem C08_context_left (P : Prim) (T : ClassTable) (hP : ∀ o a b, P.rich o a b = richcmp T o a b)
    (fuel : Nat) (f : String) (op : SelOp) (c : Expr) (st s2 : St) (v : PVal)
    (hr : st.ns.lookup "r" = none) (hf : P.getattr st.record f = none) (hd : hasPrefix "__" f = false)
    (hc : interp P (fuel + 2) c { st with trace := st.trace ++ [.getattr st.record f] } = (s2, .ok v)) :
    interp P (fuel + 3) (C08_cmpLeft f op c) st = (s2, .ok (.bool false)) := by
  rw [C08_cmpLeft, interp_compare1 (interp_r_missing hr hf hd) hc]
  exact link_missing_left hP v s2

/-- Missing field on the right, for an operand that leaves the comparison to the sentinel. -/
theorem C08_context_right (P : Prim) (T : ClassTable) (hP : ∀ o a b, P.rich o a b = richcmp T o a b)
    (fuel : Nat) (f : String) (op : SelOp) (c : Expr) (st s1 : St) (v : PVal) (hv : Foreign T v)
    (ht : v.isTmatch = false) (hr : s1.ns.lookup "r" = none) (hf : P.getattr s1.record f = none)
    (hd : hasPrefix "__" f = false) (hc : interp P (fuel + 2) c st = (s1, .ok v)) :
    interp P (fuel + 3) (C08_cmpRight f op c) st
      = ({ s1 with trace := s1.trace ++ [.getattr s1.record f] }, .ok (.bool false)) := by
  rw [C08_cmpRight, interp_compare1 hc (interp_r_missing hr hf hd)]
  exact link_missing_right hP ht hv _

/-- Under `not`, `and`, `or`: the comparison contributes False and nothing raises — `not C` is True, `C and y` is
    False without evaluating `y`, `C or y` is whatever `y` is. (`C` = any expression that evaluates to False, in
    particular the two comparisons above.) -/
theorem C08_boolean_contexts (P : Prim) (hfalse : P.truthy (.bool false) = false) (fuel : Nat) (C y : Expr)
    (st s1 : St) (hC : interp P fuel C st = (s1, .ok (.bool false))) :
    interp P (fuel + 1) (.unary "Not" C) st = (s1, .ok (.bool true)) ∧
    interp P (fuel + 1) (.boolop "And" [C, y]) st = (s1, .ok (.bool false)) ∧
    (∀ s2 w, interp P fuel y s1 = (s2, .ok w) → interp P (fuel + 1) (.boolop "Or" [C, y]) st = (s2, .ok w)) := by
  refine ⟨?_, interp_and_false y hC hfalse, fun s2 w hy => interp_or_false hC hfalse hy⟩
  rw [interp_not hC, hfalse]
  rfl

/-- The interpreted engine's arithmetic guard, through the interpreter: `r.<f> <binop> c` with a missing field is
    False for **every** operator name (the guard precedes the table lookup). -/
theorem C08_binop_context (P : Prim) (fuel : Nat) (f opname : String) (c : Expr) (st s2 : St) (v : PVal)
    (hr : st.ns.lookup "r" = none) (hf : P.getattr st.record f = none) (hd : hasPrefix "__" f = false)
    (hc : interp P (fuel + 2) c { st with trace := st.trace ++ [.getattr st.record f] } = (s2, .ok v)) :
    interp P (fuel + 3) (.binop opname (.attr (.name "r") f) c) st = (s2, .ok (.bool false)) :=
  interp_binop_missing (interp_r_missing hr hf hd) hc

/-- The reader loop (`if not selector or selector.match(obj): yield obj`; an exception ends the source). -/
def C08_readSel (m : PVal → Except Err Bool) : List PVal → List PVal × Option Err
  | [] => ([], none)
  | r :: rs =>
    match m r with
    | .error e => ([], some e)
    | .ok true => ((r :: (C08_readSel m rs).1), (C08_readSel m rs).2)
    | .ok false => C08_readSel m rs

/-- Filtering a heterogeneous stream: if the match on every record that **lacks** the field is False (which
    `C08_context_left/right` prove for the interpreted engine) and the match on every record that has it is the
    condition's value, the output is exactly the records that have the field and satisfy the condition, in order,
    and the source is never aborted — nothing after a record lacking the field is dropped. -/
theorem C08_filter (m : PVal → Except Err Bool) (has cond : PVal → Bool) (rs : List PVal)
    (hlacks : ∀ r ∈ rs, has r = false → m r = .ok false)
    (hhas : ∀ r ∈ rs, has r = true → m r = .ok (cond r)) :
    C08_readSel m rs = (rs.filter (fun r => has r && cond r), none) := by
  induction rs with
  | nil => rfl
  | cons r rs ih =>
    have ih' := ih (fun x hx => hlacks x (by simp [hx])) (fun x hx => hhas x (by simp [hx]))
    unfold C08_readSel
    cases hh : has r with
    | false =>
      rw [hlacks r (by simp) hh]
      simp [hh, ih']
    | true =>
      rw [hhas r (by simp) hh]
      cases hc : cond r <;> simp [hh, hc, ih']

/-- and conversely: one raising match loses the rest of the source (why a raising cell matters: finding #5 was
    masked in rdump exactly this way) -/
theorem C08_filter_abort (m : PVal → Except Err Bool) (r : PVal) (rs : List PVal) (e : Err) (h : m r = .error e) :
    C08_readSel m (r :: rs) = ([], some e) := by
  simp [C08_readSel, h]

/-- Helpers skip missing fields: the loop shared by `field_equals` / `field_contains` / `field_regex` gives the same
    result as over the fields the record actually has. -/
theorem C08_helpers (T : ClassTable) (r : PVal) (test : PVal → PVal → Except Err Bool) (nocase : Bool)
    (strings : List PVal) (fields : List PVal) :
    fieldLoop T r test nocase strings fields =
      fieldLoop T r test nocase strings
        (fields.filter (fun f => match f with | .str n => (recGet r n).isSome | _ => true)) := by
  induction fields with
  | nil => rfl
  | cons f fs ih =>
    cases f with
    | str n =>
      cases hg : recGet r n with
      | none => simp [fieldLoop, hg, ih]
      | some fv => simp only [List.filter_cons, hg, Option.isSome_some, if_true, fieldLoop, ih]
    | _ => rfl

-- Non-vacuity: `Foreign` is satisfiable by ordinary values, and the cells compute.
namespace C08_nonvacuous
example : Foreign C08_T0 (.int 1) := fun _ => rfl
example : Foreign C08_T0 (.list [.str "a"]) := fun _ => rfl
example : cell C08_T0 .compiled (.cmp .le) .right (.int 1) = .ok (.bool false) := rfl
example : cell C08_T0 .interpreted .notin .left (.list [.int 1]) = .ok (.bool false) := rfl
example : cell C08_T0 .compiled .isin .left (.int 5) = .error .typeErr := rfl
example : cell C08_T0 .compiled .isin .left .none = .error .typeErrNone := rfl
/-- a class table in which `Foreign` fails (the class answers `!=`), so the hypothesis is not vacuous either way -/
def T1 : ClassTable := { C08_T0 with cmp := fun _ op _ => if op = .ne then .val (.bool true) else .notImpl }
example : ¬ Foreign T1 (.int 1) := fun h => nomatch h .ne
end C08_nonvacuous
