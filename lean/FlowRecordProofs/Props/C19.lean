import FlowRecordProofs.Lemmas.KwCtor
import FlowRecordProofs.Lemmas.Avro
/-!
C19 — Avro export preserves supported values and never corrupts silently.

Hypotheses that stand for runtime components (never axioms): `JsonTextLaws.Inverse` (json.loads inverts json.dumps),
`AvroLaws` (which packed values fastavro writes under a `[t, "null"]` union; a written token decodes in place to the
stored value), `FloatLaws` (single-precision rounding is opaque). All are exercised by harness/props/C19.py.
-/
open FlowRecord FlowRecord.Avro

/-- Schema/descriptor inverse for ALL descriptors over the mapped types — any number of fields, including none:
    the schema is built, and both the schema as written and the schema as fastavro stores it (full name, no
    namespace) map back to exactly the descriptor. With at least one field the embedded `doc` is used; the zero-field
    descriptor's `doc` ends in `]]`, fails the sniff, and the name is rebuilt from namespace/name. -/
theorem C19_schema_roundtrip (J : JsonTextLaws) (hJ : J.Inverse) (d : Desc)
    (hmap : ∀ f ∈ d.fields, Mappable f.1) (hname : NameOk d.name.toList) :
    ∃ s, descriptorToSchema J d = .ok s ∧
      schemaToDescriptor J s = .ok d ∧ schemaToDescriptor J (fastavroNorm s) = .ok d := by
  obtain ⟨fs, hfs⟩ := fieldsSchema_ok hmap
  refine ⟨_, by rw [descriptorToSchema_eq, hfs]; rfl, ?_⟩
  rw [schemaToDescriptor_fastavroNorm, and_self]
  unfold schemaToDescriptor
  simp only [docSniff_dumps]
  cases hf : d.fields with
  | cons f rest => simp [hJ d]
  | nil =>
    -- no declared field: the sniff fails, the reserved fields are skipped, the name is put together again
    rw [hf] at hfs
    cases hfs
    simp only [List.isEmpty_nil, Bool.not_true, Bool.false_eq_true, if_false, List.nil_append, fallbackFields_reservedSchema,
      fallbackName_rpartition hname, String.ofList_toList]
    cases d; cases hf; rfl

/-- The `doc` sniff accepts the embedded descriptor exactly when there is at least one declared field. -/
theorem C19_doc_sniff (J : JsonTextLaws) (d : Desc) : docSniff (dumps J d) = true ↔ d.fields ≠ [] := by
  rw [docSniff_dumps]; cases d.fields <;> simp

/-- An unmapped field type is refused: no schema is built, the first `write` raises, nothing reaches the file, and
    every later `write` on that writer raises too (no writer was created) — nothing is ever written. -/
theorem C19_unmapped_refused (J : JsonTextLaws) (L : AvroLaws) (F : FloatLaws) (r r2 : Rec)
    (l1 l2 : List (String × String)) (t n : String)
    (hsplit : r.desc.fields = l1 ++ (t, n) :: l2) (h1 : ∀ f ∈ l1, Mappable f.1) (hbad : ¬ Mappable t) :
    descriptorToSchema J r.desc = .error (.unsupportedType t) ∧
    (write J L F .init r).2 = some (.unsupportedType t) ∧
    fileRows L (write J L F .init r).1 = some [] ∧
    (write J L F (write J L F .init r).1 r2).2 ≠ none ∧
    fileRows L (write J L F (write J L F .init r).1 r2).1 = some [] := by
  have hd : descriptorToSchema J r.desc = .error (.unsupportedType t) := by
    rw [descriptorToSchema_eq, hsplit, fieldsSchema_err h1 hbad]; rfl
  have hw : write J L F .init r = (⟨some r.desc, none, [], 0⟩, some (.unsupportedType t)) := by
    rw [write_first J L F rfl, hd]; rfl
  have hw2 : ∃ e, write J L F ⟨some r.desc, none, [], 0⟩ r2 = (⟨some r.desc, none, [], 0⟩, some e) := by
    by_cases hm : r2.desc = r.desc
    · exact ⟨_, write_noWriter J L F (congrArg some hm.symm) rfl⟩
    · exact ⟨_, write_mixed J L F rfl hm⟩
  obtain ⟨e, hw2⟩ := hw2
  rw [hw, hw2]
  exact ⟨hd, rfl, rfl, nofun, rfl⟩

/-- A second record type in one file is refused and the writer state (hence the file) is unchanged. -/
theorem C19_mixed_refused (J : JsonTextLaws) (L : AvroLaws) (F : FloatLaws) (st : WState) (d : Desc) (r : Rec)
    (hd : st.desc = some d) (hne : r.desc ≠ d) : write J L F st r = (st, some .mixed) :=
  write_mixed J L F hd hne

/-- Range: on an open writer holding `rows`, a record is written iff fastavro accepts every one of its values; then
    exactly the stored values are appended (ints, strings, bytes, booleans, instants unchanged; floats to single
    precision) — never anything else. Otherwise the write raises and the file still reads back `rows`. -/
theorem C19_range (J : JsonTextLaws) (L : AvroLaws) (F : FloatLaws) (st : WState) (cols : List (String × AType))
    (rows : List (List Val)) (r : Rec) (hclean : Clean L st cols rows) (hd : st.desc = some r.desc) :
    (allAccepted L cols r.values = true →
      (write J L F st r).2 = none ∧ Clean L (write J L F st r).1 cols (rows ++ [r.values.map (stored F)]) ∧
      fileRows L (write J L F st r).1 = some (rows ++ [r.values.map (stored F)])) ∧
    (allAccepted L cols r.values = false →
      (∃ i, (write J L F st r).2 = some (.refused i)) ∧ fileRows L (write J L F st r).1 = some rows) := by
  have h := write_clean J F r hclean hd
  exact ⟨fun ha => ⟨(h.1 ha).1, (h.1 ha).2, fileRows_clean (h.1 ha).2⟩, h.2⟩

/-- The admissible integers are exactly the 32-bit resp. 64-bit signed ranges; instants within 64-bit microseconds;
    a string iff it has no surrogate (strict UTF-8); the packed form of a digest never. -/
theorem C19_range_bounds (L : AvroLaws) (i : Int) (s : List Nat) :
    (L.accepts (.prim "int") (.int i) = true ↔ -2147483648 ≤ i ∧ i ≤ 2147483647) ∧
    (L.accepts (.prim "long") (.int i) = true ↔ -9223372036854775808 ≤ i ∧ i ≤ 9223372036854775807) ∧
    (L.accepts .tsMicros (.dt i) = true ↔ -9223372036854775808 ≤ i ∧ i ≤ 9223372036854775807) ∧
    (L.accepts (.prim "string") (.str s) = true ↔ ∀ c ∈ s, isSurrogate c = false) ∧
    (∀ t, L.accepts t .tuple = false) ∧ (∀ t, L.accepts t .null = true) := by
  refine ⟨?_, ?_, ?_, ?_, L.tuple_never, L.null_ok⟩
  · rw [L.int32]; simp
  · rw [L.int64]; simp
  · rw [L.ts64]; simp
  · rw [L.string_utf8]; simp

/-- The first write opens the file: for a mappable descriptor the writer becomes `Clean` with the schema's columns
    and no rows, and then behaves as `C19_range` says. -/
theorem C19_first_write (J : JsonTextLaws) (L : AvroLaws) (F : FloatLaws) (r : Rec) (s : Schema)
    (hs : descriptorToSchema J r.desc = .ok s) :
    write J L F .init r = write J L F ⟨some r.desc, some s.fields, [], 0⟩ r ∧
    Clean L ⟨some r.desc, some s.fields, [], 0⟩ s.fields [] := by
  exact ⟨by rw [write_first J L F rfl, hs]; rfl, clean_opened L r.desc s.fields⟩

/-- The property for whole write sequences as C19 states it: whatever the caller does after a refusal, the file
    holds exactly the records whose `write` did not raise. -/
def C19_sequence_statement : Prop :=
  ∀ (J : JsonTextLaws) (L : AvroLaws) (F : FloatLaws) (recs : List Rec),
    fileRows L (writeAll J L F .init recs).1 = some (accepted F recs (writeAll J L F .init recs).2)

namespace C19_witness
def J0 : JsonTextLaws := { esc := String.toList, loads := fun _ => none }
def F0 : FloatLaws := ⟨id⟩
def d0 : Desc := ⟨"test/a", [("varint", "a"), ("string", "s1"), ("string", "s2"), ("datetime", "t"), ("varint", "v"),
  ("varint", "bad")]⟩
def mk (a : Int) (s1 s2 : List Nat) (t v bad : Int) (src : Val) : Rec :=
  ⟨d0, [.int a, .str s1, .str s2, .dt t, .int v, .int bad, src, .null, .dt 1577836800000000, .int 1]⟩
def r1 : Rec := mk 1 [97] [98] 1000 11 111 .null
def r2 : Rec := mk 2 [99] [100] 2000 22 9223372036854775808 .null
def r3 : Rec := mk 3 [101] [102] 3000 33 333 (.str [120])
end C19_witness

/-- FALSE of the model (and of the code, replayed by the harness): the refused record r2 leaves its first field in
    fastavro's block buffer; after the next write the file holds r1 and a record made of r2's first five fields and
    r3's first five values shifted into `bad`, `_source`, `_classification`, `_generated`, `_version` (`bad = 3`) — r3
    is gone and no reader sees an error. -/
theorem C19_sequence_counterexample : ¬ C19_sequence_statement := by
  intro h
  have := h C19_witness.J0 fastavro C19_witness.F0 [C19_witness.r1, C19_witness.r2, C19_witness.r3]
  revert this
  decide +kernel

/-- What does hold: as long as the caller stops writing to the file at the first refusal (every `write` before the
    last one succeeded), the file holds exactly the accepted records in order, stored values only. -/
theorem C19_sequence_partial (J : JsonTextLaws) (L : AvroLaws) (F : FloatLaws) (recs : List Rec) :
    ∀ (st : WState) (cols : List (String × AType)) (rows : List (List Val)), Clean L st cols rows →
      (∀ r ∈ recs, st.desc = some r.desc) →
      (∀ e ∈ (writeAll J L F st recs).2.dropLast, e = none) →
      fileRows L (writeAll J L F st recs).1 = some (rows ++ accepted F recs (writeAll J L F st recs).2) :=
  fun _ _ _ => writeAll_clean J F recs

/-- End to end from a fresh writer: for records of one mappable descriptor, as long as the caller stops at the first
    refusal, a standard reader finds in the closed file exactly the accepted records, in order, as stored values. -/
theorem C19_file_contents (J : JsonTextLaws) (L : AvroLaws) (F : FloatLaws) (d : Desc) (s : Schema) (recs : List Rec)
    (hs : descriptorToSchema J d = .ok s) (hdesc : ∀ r ∈ recs, r.desc = d)
    (hstop : ∀ e ∈ (writeAll J L F .init recs).2.dropLast, e = none) :
    fileRows L (writeAll J L F .init recs).1 = some (accepted F recs (writeAll J L F .init recs).2) := by
  cases recs with
  | nil => rfl
  | cons r rs =>
    obtain rfl := hdesc r List.mem_cons_self
    obtain ⟨hw, hclean⟩ := C19_first_write J L F r s hs
    rw [writeAll_cons, hw, ← writeAll_cons] at hstop ⊢
    simpa using writeAll_clean J F (r :: rs) hclean (fun r' hr' => congrArg some (hdesc r' hr').symm) hstop

/-- Reader conversion: a datetime delivered by the Avro library passes through unchanged whatever its instant
    (before 1970, near the epoch, far future); a raw number in a datetime field is taken for microseconds only above
    the extracted threshold. -/
theorem C19_reader_conv (m i : Int) :
    readerConv true (.dt m) = .dt m ∧ readerConv false (.int i) = .int i ∧
    (readerConv true (.int i) = .dt i ↔ i > 4294967295) := by
  refine ⟨rfl, rfl, ?_⟩
  have : Gen.avroReaderTsThreshold = 4294967295 := rfl
  simp only [readerConv, this, Bool.true_and]
  by_cases h : i > 4294967295 <;> simp [h]

/-- Inst over the tables as extracted now: every Avro type the writer emits is one the fallback reader maps (a key of
    `RECORD_TYPE_MAP`) or belongs to the logical-type branch; the logical branch is `datetime`; every reserved field
    is mappable and starts with `_` (so the fallback skips it); the sniffed prefix/suffix; the shapes of
    `AvroWriter.write`, the unmapped-type raise, the reader's conversion; `close()` flushes. -/
theorem C19_inst :
    (∀ p ∈ Gen.AVRO_TYPE_MAP, p.1 = Gen.avroLogicalFieldType ∨ (assoc Gen.RECORD_TYPE_MAP p.2).isSome = true) ∧
    (∀ p ∈ Gen.AVRO_TYPE_MAP, p.2 ≠ "") ∧
    Gen.avroLogicalFieldType = "datetime" ∧
    (∀ p ∈ Gen.RESERVED_FIELDS, p.1.toList.head? = some '_' ∧ (assoc Gen.AVRO_TYPE_MAP p.2).isSome = true) ∧
    Gen.avroDocPrefix = "[\"" ∧ Gen.avroDocSuffix = "]]]" ∧
    Gen.avroCloseFlushes = true ∧ Gen.avroUnmappedRaises = true ∧ Gen.avroIteratesAllFields = true ∧
    Gen.avroFallbackSkipsUnderscore = true ∧ Gen.avroReaderTsThreshold = 4294967295 ∧
    Gen.avroNameSplit = "namespace, _, name = desc.name.rpartition('/')" ∧
    Gen.avroDocExpr = "json.dumps(desc._pack())" ∧
    Gen.avroLogicalSchema = "[{'type': 'long', 'logicalType': 'timestamp-micros'}, {'type': 'null'}]" ∧
    Gen.avroPlainSchema = "[avro_type, 'null']" ∧
    Gen.avroFallbackName = "'/'.join([schema.get('namespace', ''), schema.get('name', '')]).replace('.', '/').strip('/')" ∧
    Gen.avroReaderTsTest = "isinstance(value, (int, float)) and value > 4294967295" ∧
    Gen.avroReaderTsConv = "EPOCH + timedelta(microseconds=value)" := by
  refine ⟨by decide +kernel, by decide, rfl, by decide +kernel, rfl, rfl, rfl, rfl, rfl, rfl, rfl, rfl, rfl, rfl, rfl, rfl, rfl, rfl⟩

/-- Inst: the body of `AvroWriter.write` is the three statements the writer model transcribes (descriptor stored
    before the schema is built; mixed-type test; one `writer.write` of the packed dict). -/
theorem C19_inst_write :
    Gen.avroWriteBody = [
      "if not self.desc:\n    self.desc = r._desc\n    self.schema = descriptor_to_schema(self.desc)\n    self.parsed_schema = fastavro.parse_schema(self.schema)\n    self.writer = fastavro.write.Writer(self.fp, self.parsed_schema, codec=self.codec)",
      "if self.desc != r._desc:\n    raise Exception('Mixed record types')",
      "self.writer.write(r._packdict())"] := rfl

/-- What a doc-less reader (or the fallback path) makes of each mapped type: the coarse flow type. -/
theorem C19_fallback_types :
    Gen.AVRO_TYPE_MAP.map (fun p => (p.1,
      match fieldSchema p.1 with
      | .ok a => (match avroTypeToFlowType a.toJ with | .ok ft => some ft | .error _ => none)
      | .error _ => none)) =
    [("boolean", some "boolean"), ("datetime", some "datetime"), ("filesize", some "varint"), ("uint16", some "varint"),
     ("uint32", some "varint"), ("float", some "float"), ("string", some "string"), ("unix_file_mode", some "varint"),
     ("varint", some "varint"), ("wstring", some "string"), ("uri", some "string"), ("digest", some "bytes"),
     ("bytes", some "bytes")] := by
  decide +kernel

/-- READERS BUILD RECORDS BY KEYWORD: for record types with a field named like a Python keyword the generated
    constructor assigns `kwargs.get(k, v)` - a value handed over by keyword is the slot's value also when it is falsy
    (0, "", False, an empty list), and `_unpack` tests `is not None`. The template text is regenerated from the source
    and must equal the frozen text this meaning belongs to. -/
theorem C19_keyword_constructor_keeps_values {V : Type} (x pos : V) :
    (FlowRecord.Gen.tplKwInit = FlowRecord.KwCtor.frozenInit ∧ FlowRecord.Gen.tplKwUnpack = FlowRecord.KwCtor.frozenUnpack) ∧
    FlowRecord.KwCtor.slotValue (some x) pos = x ∧ FlowRecord.KwCtor.slotValue (none : Option V) pos = pos :=
  ⟨KwCtor.template_is_frozen, KwCtor.slotValue_keyword x pos, KwCtor.slotValue_positional pos⟩

namespace C19_nonvacuous
open C19_witness
example : NameOk "filesystem/entry".toList := by
  rw [String.toList_ofList]; exact ⟨by decide, by decide, by decide⟩
example : Mappable "uint32" := Or.inr ⟨"int", by decide, by decide⟩
example : ¬ Mappable "path" := by
  intro h
  rcases h with h | ⟨a, ha, _⟩
  · revert h; decide
  · have : assoc Gen.AVRO_TYPE_MAP "path" = none := by decide
    rw [this] at ha; cases ha
example : docSniff (dumps J0 ⟨"test/a", []⟩) = false := by decide
example : docSniff (dumps J0 d0) = true := by decide +kernel
example : (write J0 fastavro F0 .init r1).2 = none := by decide +kernel
example : (write J0 fastavro F0 (write J0 fastavro F0 .init r1).1 r2).2 = some (.refused 5) := by decide +kernel
example : fileRows fastavro (writeAll J0 fastavro F0 .init [r1, r2, r3]).1 =
    some [r1.values, [.int 2, .str [99], .str [100], .dt 2000, .int 22, .int 3, .str [101], .str [102], .dt 3000,
      .int 33]] := by decide +kernel
example : fileRows fastavro (writeAll J0 fastavro F0 .init [r1, r3, r2]).1 = some [r1.values, r3.values] := by decide +kernel
end C19_nonvacuous
