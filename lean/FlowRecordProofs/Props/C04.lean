import FlowRecordProofs.Lemmas.PackIgnore
import FlowRecordProofs.Lemmas.StreamCut
import FlowRecordProofs.Lemmas.StreamExample
import FlowRecordProofs.Lemmas.WriteFault
/-!
C04 — a damaged stream yields an intact prefix, never altered records.
In the frame-level theorems (down to `C04_partial_not_complete`) frames are arbitrary byte strings shorter than 2^32
(what a 4-byte length can describe): they hold for every frame list and every cut position. The three after them are
about one frame body, the encoding of a well-formed value. The record-level theorems (from `C04_records_prefix` on)
are about what `writeAll` puts out for an admissible history (`HistOK`).
-/
open FlowRecord FlowRecord.Msgpack FlowRecord.Stream FlowRecord.Wire

/-- One frame followed by anything: the reader's frame splitter returns exactly that frame's body and the rest. -/
theorem C04_next_frame (body rest : Bytes) (h : body.length < 4294967296) :
    nextFrame (frameBytes body ++ rest) = some (body, rest) :=
  nextFrame_frame body rest h

/-- A stream that ends exactly at a frame boundary splits into exactly the frames written, nothing left over. -/
theorem C04_full_stream (frames : List Bytes) (hw : ∀ f ∈ frames, f.length < 4294967296) :
    splitFrames (streamOf frames).length (streamOf frames) = (frames, []) := by
  simpa using splitFrames_stream frames [] _ hw (Or.inl (by simp)) (length_le_streamOf frames)

/-- The prefix theorem: cut the stream at ANY byte position k. What the reader's frame splitter sees is exactly the
    first m frames, complete and unmodified, followed by a partial frame (fewer than 4 length bytes, or a length and
    a body shorter than it) — never a frame that was not written, never an altered one, and the cut bytes are
    accounted for exactly (`take k stream = frames[:m] ++ partial`). -/
theorem C04_cut_prefix (frames : List Bytes) (k : Nat) (hw : ∀ f ∈ frames, f.length < 4294967296) :
    ∃ m p, m ≤ frames.length ∧
      (streamOf frames).take k = streamOf (frames.take m) ++ p ∧
      (IsPartialFrame p ∨ (p = [] ∧ m = frames.length)) ∧
      splitFrames ((streamOf frames).take k).length ((streamOf frames).take k) = (frames.take m, p) := by
  by_cases hk : k < (streamOf frames).length
  · obtain ⟨pre, f, post, j, rfl, hj, ht⟩ := take_stream frames k hk
    have hp := isPartialFrame_take f j (hw f (by simp)) hj
    refine ⟨pre.length, _, by simp, by rwa [List.take_left' rfl], .inl hp, ?_⟩
    rw [ht, List.take_left' rfl]
    exact splitFrames_stream pre _ _ (fun g hg => hw g (by simp [hg])) hp
      (by rw [List.length_append]; have := length_le_streamOf pre; omega)
  · rw [List.take_of_length_le (Nat.le_of_not_lt hk)]
    exact ⟨frames.length, [], Nat.le_refl _, by simp, .inr ⟨rfl, rfl⟩,
      by rw [List.take_length]; exact C04_full_stream frames hw⟩

/-- The reader ends cleanly (EOF) exactly when fewer than four bytes are left: at a frame boundary or inside a
    length prefix. -/
theorem C04_clean_end_iff (rem : Bytes) : nextFrame rem = none ↔ rem.length < 4 :=
  nextFrame_eq_none_iff rem

/-- A partial frame is never taken for a complete one: the reader either stops (EOF) or is handed a body shorter than
    the announced length. -/
theorem C04_partial_not_complete (p : Bytes) (hp : IsPartialFrame p) :
    nextFrame p = none ∨ ∃ body rest, nextFrame p = some (body, rest) ∧ body.length < beDec (p.take 4) :=
  nextFrame_partial hp

/-- Every completely written frame decodes to exactly the value that was packed into it (msgpack M1), so a complete
    frame can only yield the record it was written from. -/
theorem C04_complete_frame_decodes (v : MVal) (hw : WF v) : decode (enc v) = .ok v :=
  decode_enc v hw

/-- M5: a frame body that was only partly written never decodes to a value: for every well-formed value (any depth,
    any size class) and EVERY proper prefix of its encoding, the document decoder reports "incomplete input" — so
    the reader raises and yields nothing for the cut frame; it can never yield a partially filled record. -/
theorem C04_truncated_body_rejected (reg : Registry) (v : MVal) (k : Nat) (hw : WF v) (hk : k < (enc v).length) :
    decode ((enc v).take k) = .incomplete ∧ decodeFrame reg ((enc v).take k) = .error .incomplete :=
  ⟨decode_take v k hw hk, decodeFrame_take reg hw hk⟩

/-- The same at the level of the byte decoder with any amount of fuel that suffices for the complete value. -/
theorem C04_truncated_value_incomplete (v : MVal) (f k : Nat) (hw : WF v) (hf : depth v ≤ f)
    (hk : k < (enc v).length) : dec f ((enc v).take k) = .incomplete :=
  dec_take v f k hw (Or.inl hf) hk

/-- Inst: the facts read off the current source that the model's reader relies on. -/
theorem C04_inst :
    Gen.lenFormatWrite = ">I" ∧ Gen.lenFormatRead = ">I" ∧ Gen.lenPrefixBytes = 4 ∧ Gen.shortLengthIsEof = true ∧
    Gen.headerReadLen = "4 + 2 + len(RECORDSTREAM_MAGIC)" ∧ Gen.headerCheckEndswith = true :=
  ⟨rfl, rfl, rfl, rfl, rfl, rfl⟩

/-- **The prefix theorem at the level of records.** Take ANY admissible history of records (as in
    `C01_stream_roundtrip`: any number of records, any descriptors, nesting to any depth) written by a fresh writer,
    and cut the byte stream at ANY position `k` (a crash while writing, a truncated copy). Then the reader, run over
    the first `k` bytes, yields exactly the first `n` records written — same order, each with its own descriptor, field
    for field the values written; never a record that was not written, never an altered or partly filled one — where
    `n` is precisely the number of records whose frames lie completely inside the first `k` bytes (the output of the
    first `n` records fits into `k` bytes, that of the first `n + 1` does not: no complete record is skipped). After
    them the reader stops: cleanly (EOF) when the cut is at a frame boundary or inside a 4-byte length prefix, with
    "incomplete input" when it is inside a frame body, with "not a record stream" when it is inside the header frame.
    At or beyond the end of the stream all records come out and the end is clean. -/
theorem C04_records_prefix (hashOf : Utf8.PyStr → List (Utf8.PyStr × Utf8.PyStr) → Nat) (o : PV) (os : List PV)
    (st' : WState) (frames : List Bytes) (k : Nat)
    (hw : writeAll WState.init (o :: os) = some (st', frames))
    (hok : HistOK hashOf [] (o :: os)) (hsz : ∀ b ∈ frames, b.length < 4294967296) :
    ∃ n e, n ≤ (o :: os).length ∧
      readAll hashOf ((streamOf frames).take k) = (rvOfList ((o :: os).take n), e) ∧
      (e = End.eof ∨ e = End.error .incomplete ∨ (e = End.notAStream ∧ n = 0 ∧ k < headerLen)) ∧
      ((streamOf frames).length ≤ k → n = (o :: os).length ∧ e = End.eof) ∧
      (0 < n → ∀ stn fn, writeAll WState.init ((o :: os).take n) = some (stn, fn) → (streamOf fn).length ≤ k) ∧
      (n < (o :: os).length → ∀ stn fn, writeAll WState.init ((o :: os).take (n + 1)) = some (stn, fn) →
        k < (streamOf fn).length) := by
  have := readAll_cut_writeHist (hist := allOk (o :: os)) (List.cons_ne_nil _ _) k
    ((writeHist_all_ok (o :: os) _).trans hw) (histOKF_all_ok.mpr hok) hsz
  simpa only [take_all_ok, okObjs_all_ok, writeHist_all_ok, allOk, List.length_map] using this

/-- **Failing or short write.** Split the stream into the calls the writer makes on its file object in ANY way
    (`calls.flatten = stream`; the implementation's own chunking - a 4-byte length, then the blob, per frame - is
    `writeCalls`, see `C04_writeCalls`). If call number `i` accepts only `j` of its bytes (`j = 0`: the call failed
    outright, `i` past the last call: nothing failed) and nothing is written afterwards, reading what is on disk yields
    exactly the first `n` records written, unaltered and in order, then ends cleanly, with "incomplete input" or -
    inside the header frame - with "not a record stream"; `n` counts exactly the records whose frames are completely
    on disk. -/
theorem C04_failing_or_short_write (hashOf : Utf8.PyStr → List (Utf8.PyStr × Utf8.PyStr) → Nat) (o : PV) (os : List PV)
    (st' : WState) (frames : List Bytes) (calls : List Bytes) (i j : Nat)
    (hw : writeAll WState.init (o :: os) = some (st', frames))
    (hcalls : calls.flatten = streamOf frames)
    (hok : HistOK hashOf [] (o :: os)) (hsz : ∀ b ∈ frames, b.length < 4294967296) :
    ∃ n e, n ≤ (o :: os).length ∧
      readAll hashOf (diskAfterFault calls i j) = (rvOfList ((o :: os).take n), e) ∧
      (e = End.eof ∨ e = End.error .incomplete ∨ (e = End.notAStream ∧ n = 0)) ∧
      (0 < n → ∀ stn fn, writeAll WState.init ((o :: os).take n) = some (stn, fn) →
        (streamOf fn).length ≤ (diskAfterFault calls i j).length) ∧
      (n < (o :: os).length → ∀ stn fn, writeAll WState.init ((o :: os).take (n + 1)) = some (stn, fn) →
        (diskAfterFault calls i j).length < (streamOf fn).length) := by
  -- what is on disk is the stream cut at its own length
  have hd := List.prefix_iff_eq_take.mp (hcalls ▸ diskAfterFault_prefix calls i j)
  obtain ⟨n, e, hn, hr, he, -, hfit, hnext⟩ :=
    C04_records_prefix hashOf o os st' frames (diskAfterFault calls i j).length hw hok hsz
  exact ⟨n, e, hn, hd ▸ hr, he.imp_right (.imp_right fun h => ⟨h.1, h.2.1⟩), hfit, hnext⟩

/-- the implementation's chunking into write calls (two per frame) is one admissible chunking -/
theorem C04_writeCalls (frames : List Bytes) : (writeCalls frames).flatten = streamOf frames :=
  writeCalls_flatten frames

/-- The same for a writer that is appending (header already written, any registry): frames after the header. -/
theorem C04_records_prefix_continued (hashOf : Utf8.PyStr → List (Utf8.PyStr × Utf8.PyStr) → Nat) (objs : List PV)
    (st st' : WState) (frames : List Bytes) (fuel k : Nat)
    (hw : writeAll st objs = some (st', frames)) (hhdr : st.headerWritten = true)
    (hok : HistOK hashOf st.registry objs) (hsz : ∀ b ∈ frames, b.length < 4294967296) :
    ∃ n e, n ≤ objs.length ∧ (e = End.eof ∨ e = End.error .incomplete) ∧
      readFramesH hashOf (fuel + frames.length + 1) st.registry ((streamOf frames).take k) =
        (rvOfList (objs.take n), e) ∧
      ((streamOf frames).length ≤ k → n = objs.length ∧ e = End.eof) ∧
      (∃ stn fn, writeAll st (objs.take n) = some (stn, fn) ∧ (streamOf fn).length ≤ k) ∧
      (n < objs.length → ∃ stn fn, writeAll st (objs.take (n + 1)) = some (stn, fn) ∧ k < (streamOf fn).length) := by
  -- `read_cut_writeHist` holds for every fuel; the `+ 1` of the statement is its instance at `fuel + 1`
  have := read_cut_writeHist (fuel + 1) k ((writeHist_all_ok objs st).trans hw) hhdr (histOKF_all_ok.mpr hok) hsz
  simpa only [CutAt, take_all_ok, okObjs_all_ok, writeHist_all_ok, allOk, List.length_map, Nat.add_right_comm fuel 1]
    using this

/-- A stream cut inside its header frame is refused ("not a record stream"), for every cut position. -/
theorem C04_header_cut (k : Nat) (hk : k < headerLen) : readHeader ((frameBytes magicBody).take k) = none :=
  readHeader_cut k hk

/-- `RecordStreamReader.read` in the current source is the frame reader the cut model (`Stream.decStep`) was written
    from: one read of the 4-byte length prefix (short = end of file), ONE read of exactly `size` bytes for the body, the
    body handed to the unpacker as it arrived - no chunking, no reuse of a buffer, nothing kept between frames. -/
theorem C04_frame_read_is_the_modelled_one :
    Gen.readerReadBody = ["d = self.fp.read(4)", "if len(d) != 4:", "  raise EOFError()",
      "size = struct.unpack('>I', d)[0]", "d = self.fp.read(size)", "return self.packer.unpack(d)"] :=
  rfl

/-- THE COMPARISON-IGNORE CONFIGURATION CONCERNS == AND hash() ONLY: whatever configuration is in force
    (FLOW_RECORD_IGNORE, `set_ignored_fields_for_comparison`, a `with ignore_fields_for_comparison(...)` block around a
    de-duplicating producer), the frames a writer emits hold complete records: the packer asks `Record._pack` to leave
    out nothing. Premises: the regenerated source facts (`Gen.recordPackReadsGlobalIgnore`,
    `recordPackExcludedDefault`, `packerPassesExcluded`). -/
theorem C04_ignore_configuration_never_reaches_the_writer (globalIg : List (List Nat))
    (names : List (List Nat)) {α : Type} (vals : List α) (h : names.length = vals.length) :
    FlowRecord.Equality.packerExcluded globalIg = [] ∧
    FlowRecord.Equality.keep (FlowRecord.Equality.packerExcluded globalIg) names vals = vals :=
  FlowRecord.Equality.packer_keeps_all globalIg names vals h

-- non-vacuity of C04_cut_prefix: a two-frame stream cut inside the second frame
example : splitFrames 100 ((streamOf [[1, 2, 3], [4, 5]]).take 10) = ([[1, 2, 3]], [0, 0, 0]) := by decide
example : IsPartialFrame [0, 0, 0] := Or.inl (by decide)

-- non-vacuity of C04_records_prefix: a concrete two-record history meets every hypothesis (see Lemmas/StreamExample)
example : (writeAll WState.init [StreamExample.o1, StreamExample.o2]).isSome = true := StreamExample.written
example : ∀ st' frames, writeAll WState.init [StreamExample.o1, StreamExample.o2] = some (st', frames) →
    (∀ b ∈ frames, b.length < 4294967296) →
    ∃ n e, n ≤ 2 ∧ readAll StreamExample.h ((streamOf frames).take 80) =
      (rvOfList ([StreamExample.o1, StreamExample.o2].take n), e) :=
  fun st' frames hw hsz =>
    let ⟨n, e, hn, hr, _⟩ := C04_records_prefix StreamExample.h _ _ st' frames 80 hw StreamExample.hist hsz
    ⟨n, e, hn, hr⟩

-- non-vacuity of C04_failing_or_short_write: the second call (the blob of the first frame) of a two-frame stream
-- accepts 3 bytes
example : diskAfterFault (writeCalls [[1, 2, 3, 4, 5], [6]]) 1 3 = [0, 0, 0, 5, 1, 2, 3] := by decide
example : diskAfterFault (writeCalls [[1, 2], [6]]) 9 0 = streamOf [[1, 2], [6]] := by decide
