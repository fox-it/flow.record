import FlowRecordProofs.Lemmas.PackIgnore
import FlowRecordProofs.Lemmas.FieldPack
import FlowRecordProofs.Lemmas.Utf8
import FlowRecordProofs.Lemmas.StreamCut
import FlowRecordProofs.Lemmas.StreamExample
/-! C01 — record stream round-trip preserves every record exactly. -/
open FlowRecord FlowRecord.Msgpack FlowRecord.Wire FlowRecord.Stream

/-- M1: what the msgpack packer writes for any well-formed value tree (any depth, every size class, integers in
    [-2^63, 2^64)) is decoded back to exactly that value, with whatever follows it left untouched. -/
theorem C01_msgpack_roundtrip (v : MVal) (rest : Bytes) (hw : WF v) :
    dec (depth v) (enc v ++ rest) = .ok (v, rest) :=
  dec_enc v (depth v) rest hw (Nat.le_refl _)

/-- M1 at the document level: `unpackb (packb v) = v`. -/
theorem C01_msgpack_document (v : MVal) (hw : WF v) : decode (enc v) = .ok v :=
  decode_enc v hw

/-- R1, the packer layer: for every admissible packed-level value — None, booleans, integers of ANY size (native or
    through the sign-magnitude big-integer envelope), float bit patterns, text in the image of
    decode/surrogateescape, bytes, lists/tuples and dicts of these to any depth, timestamps in both encodings,
    records nested in records to any depth and grouped records, whose identifiers are bound to their own descriptors
    — what the packer produces is unpacked to exactly that value, field for field. -/
theorem C01_packed_roundtrip (reg : Registry) (pv : PV) (m : MVal) (hok : PVOK reg pv) (hm : toM pv = some m) :
    fromM reg (need pv) m = .ok (rvOf pv) :=
  fromM_toM reg pv m (need pv) hok hm (Nat.le_refl _)

/-- R1 through the bytes: encode the packed value, decode the document, unpack it. -/
theorem C01_frame_roundtrip (reg : Registry) (pv : PV) (m : MVal) (hok : PVOK reg pv) (hm : toM pv = some m) :
    (match decode (enc m) with
     | .ok v => fromM reg (need pv) v
     | _ => .error .invalid) = .ok (rvOf pv) := by
  rw [decode_enc m (toM_WF hok hm)]
  exact C01_packed_roundtrip reg pv m hok hm

/-- Integers of any magnitude and sign survive the big-integer envelope (`neg`, big-endian magnitude). -/
theorem C01_varint_any_size (i : Int) :
    (if decide (i < 0) then -(beDec (magBytes i.natAbs) : Int) else (beDec (magBytes i.natAbs) : Int)) = i :=
  varint_roundtrip i

/-- C01 at the byte level, the composition of everything above (M1, framing, registry invariant, envelopes):
    for EVERY admissible history of records and grouped records — any number of them, any interleaving of descriptors
    (including descriptors whose identifiers collide, as long as no single record tree holds two of them), records
    nested in records to any depth, groups of any number of member records, every value kind of `PVOK` — written by
    a fresh writer, the reader run over the BYTES of the stream returns exactly the records written, same count, same
    order, each with its own descriptor and field for field the values written, and then ends cleanly. `hashOf` is any
    identifier function on which reader and writer agree. -/
theorem C01_stream_roundtrip (hashOf : Utf8.PyStr → List (Utf8.PyStr × Utf8.PyStr) → Nat) (o : PV) (os : List PV)
    (st' : WState) (frames : List Bytes)
    (hw : writeAll WState.init (o :: os) = some (st', frames))
    (hok : HistOK hashOf [] (o :: os)) (hsz : ∀ b ∈ frames, b.length < 4294967296) :
    readAll hashOf (streamOf frames) = (rvOfList (o :: os), .eof) :=
  okObjs_all_ok (o :: os) ▸ readAll_writeHist hashOf (o, none) (allOk os) st' frames
    ((writeHist_all_ok (o :: os) _).trans hw) (histOKF_all_ok.mpr hok) hsz

/-- the same for a writer that has already written its header and any earlier records (streams are appendable) -/
theorem C01_stream_roundtrip_continued (hashOf : Utf8.PyStr → List (Utf8.PyStr × Utf8.PyStr) → Nat) (objs : List PV)
    (st st' : WState) (frames : List Bytes) (fuel : Nat)
    (hw : writeAll st objs = some (st', frames)) (hhdr : st.headerWritten = true)
    (hok : HistOK hashOf st.registry objs) (hsz : ∀ b ∈ frames, b.length < 4294967296) :
    readFramesH hashOf (fuel + frames.length) st.registry (streamOf frames) = (rvOfList objs, .eof) :=
  okObjs_all_ok objs ▸ read_writeHist fuel ((writeHist_all_ok objs st).trans hw) hhdr (histOKF_all_ok.mpr hok) hsz

/-- The stream theorem with FAILING writes in between: a write may raise while its object is being packed, after any
    number `k` of the object's descriptors were registered (their frames are on the stream, the object's frame is not),
    and the caller carries on with the same writer. For every admissible history of that kind on a fresh writer, the
    reader returns exactly the objects whose write succeeded - same order, each as written - and ends cleanly; the
    failed objects themselves are unconstrained. -/
theorem C01_stream_roundtrip_failed_writes (hashOf : Utf8.PyStr → List (Utf8.PyStr × Utf8.PyStr) → Nat)
    (e : PV × Option Nat) (es : List (PV × Option Nat)) (st' : WState) (frames : List Bytes)
    (hw : writeHist WState.init (e :: es) = some (st', frames))
    (hok : HistOKF hashOf [] (e :: es)) (hsz : ∀ b ∈ frames, b.length < 4294967296) :
    readAll hashOf (streamOf frames) = (rvOfList (okObjs (e :: es)), .eof) :=
  readAll_writeHist hashOf e es st' frames hw hok hsz

/-- S1, text including undecodable bytes: for EVERY byte string — valid UTF-8 or not — decoding it with
    `surrogateescape` and encoding the result gives exactly the original bytes back. -/
theorem C01_text_undecodable_bytes (bs : Bytes) : Utf8.encodeSE (Utf8.decodeSE bs) = some bs :=
  Utf8.encode_decodeSE bs

/-- Hence every text that arose from decoding bytes (the only way undecodable bytes get into a `string` field) meets
    the text hypothesis `strOK` of the round-trip theorems. -/
theorem C01_decoded_text_admissible (bs : Bytes) (h : bs.length < 4294967296) : strOK (Utf8.decodeSE bs) :=
  ⟨bs, Utf8.encode_decodeSE bs, h, rfl⟩

/-- S2, ordinary text: every string of Unicode scalar values (all planes; no lone surrogates) is encodable and decodes
    back to exactly the same code points. -/
theorem C01_text_scalars (s : Utf8.PyStr) (hs : ∀ c ∈ s, Utf8.isScalar c) :
    ∃ bs, Utf8.encodeSE s = some bs ∧ Utf8.decodeSE bs = s := by
  obtain ⟨bs, h1, h2⟩ := Utf8.decode_encode_scalars s hs
  exact ⟨bs, h1, h2 bs.length (Nat.le_refl _)⟩

/-- The text hypothesis cannot be dropped: the two escape surrogates U+DCC3 U+DCA9 spell the valid UTF-8 sequence
    C3 A9, so they are written as those bytes and read back as the single character U+00E9. -/
theorem C01_text_counterexample :
    Utf8.encodeSE [0xDCC3, 0xDCA9] = some [0xC3, 0xA9] ∧ Utf8.decodeSE [0xC3, 0xA9] = [0xE9] := by decide

/-- F1, the field-type layer (`FieldType._pack` / `_unpack`): for every kind of field — text, integers, booleans,
    floats, bytes, digests, paths, commands, addresses, networks, and typed lists of these to any length — and every
    well-formed value of it (`WFT`: digest text in lower-case hex, path text in pathlib's normal form `norm`, an
    address whose family agrees with its magnitude, no unset list elements), unpacking what `_pack` produced, as it
    comes back from the packer layer, gives exactly the value. `norm` (pathlib) is a parameter: the theorem holds
    for every normal-form function. Together with `C01_stream_roundtrip` this is the typed round trip. -/
theorem C01_field_unpack_pack (norm : Nat → FieldPack.Str → FieldPack.Str) (k : FieldPack.Kind) (v : FieldPack.TVal)
    (pv : PV) (hw : FieldPack.WFT norm k v) (hp : FieldPack.packT k v = some pv) :
    FieldPack.unpackT norm k (rvOf pv) = some v :=
  FieldPack.unpackT_packT norm k v pv hw hp

/-- hex: `a2b_hex(b2a_hex(b)) = b` for every byte string, and `b2a_hex(a2b_hex(s)) = s` for every LOWER-case hex
    text — the reason for `digestOK` in `WFT`. -/
theorem C01_hex_roundtrip (bs : Bytes) (s : FieldPack.Str) (b2 : Bytes) :
    FieldPack.unhexlify (FieldPack.hexlify bs) = some bs ∧
    (FieldPack.unhexlify s = some b2 → FieldPack.isLowerHex s = true → FieldPack.hexlify b2 = s) :=
  ⟨FieldPack.unhexlify_hexlify bs, FieldPack.hexlify_unhexlify_lower s b2⟩

/-- Recorded finding: the lower-case hypothesis cannot be dropped. A digest given as "AB" (upper case) is packed as
    the byte AB and comes back as the text "ab". -/
theorem C01_digest_uppercase_counterexample :
    FieldPack.packT .digest (.digest (some [65, 66]) none none) = some (.seq [.bytes [0xAB], .none, .none]) ∧
    FieldPack.unpackT (fun _ t => t) .digest (rvOf (.seq [.bytes [0xAB], .none, .none]))
      = some (.digest (some [97, 98]) none none) := ⟨rfl, rfl⟩

/-- Recorded finding #1 inside the field layer: the IPv6 address ::1 is packed as the integer 1 and comes back as the
    IPv4 address 0.0.0.1 (the family is inferred from the magnitude). -/
theorem C01_ipv6_low_counterexample :
    FieldPack.packT .ip (.ip 6 1) = some (.int 1) ∧
    FieldPack.unpackT (fun _ t => t) .ip (rvOf (.int 1)) = some (.ip 4 1) := ⟨rfl, rfl⟩

/-- THE COMPARISON-IGNORE CONFIGURATION CONCERNS == AND hash() ONLY: whatever configuration is in force
    (FLOW_RECORD_IGNORE, `set_ignored_fields_for_comparison`, a `with ignore_fields_for_comparison(...)` block around a
    de-duplicating producer), every record written to a stream is written with ALL its slots: the packer asks
    `Record._pack` to leave out nothing. Premises: the regenerated source facts (`Gen.recordPackReadsGlobalIgnore`,
    `recordPackExcludedDefault`, `packerPassesExcluded`). -/
theorem C01_ignore_configuration_never_reaches_the_writer (globalIg : List (List Nat))
    (names : List (List Nat)) {α : Type} (vals : List α) (h : names.length = vals.length) :
    FlowRecord.Equality.packerExcluded globalIg = [] ∧
    FlowRecord.Equality.keep (FlowRecord.Equality.packerExcluded globalIg) names vals = vals :=
  FlowRecord.Equality.packer_keeps_all globalIg names vals h

-- non-vacuity: a record with a big integer, text, a UTC timestamp and a nested list satisfies the hypotheses
namespace C01_nonvacuous
def d : Desc := { name := [116, 47, 120], fields := [([118], [110])], hash := 7 }
def reg : Registry := [((d.name, d.hash), d)]
def pv : PV := .record d [.int 1180591620717411303424, .str [97, 233], .dtUtc [2020, 1, 2, 3, 4, 5, 6], .seq [.none, .bool true]]
example : (toM pv).isSome = true := by decide
example : strOK [97, 233] := ⟨[97, 195, 169], by decide, by decide, by decide⟩
example : PVOK reg (.seq [.none, .bool true, .int (-5), .bytes [1, 2]]) := by
  simp only [PVOK, PVOKList, List.length_cons, List.length_nil]
  refine ⟨by omega, trivial, trivial, Or.inl (by decide), by omega, trivial⟩
-- the hypotheses of the stream theorem are met by a concrete two-record history (Lemmas/StreamExample)
example : (writeAll WState.init [StreamExample.o1, StreamExample.o2]).isSome = true := StreamExample.written
example : ∀ st' frames, writeAll WState.init [StreamExample.o1, StreamExample.o2] = some (st', frames) →
    (∀ b ∈ frames, b.length < 4294967296) →
    readAll StreamExample.h (streamOf frames) = (rvOfList [StreamExample.o1, StreamExample.o2], .eof) :=
  fun st' frames hw hsz => C01_stream_roundtrip _ _ _ st' frames hw StreamExample.hist hsz
-- … and by a history that starts with a grouped record
example : ∀ st' frames, writeAll WState.init [StreamExample.g1, StreamExample.o2] = some (st', frames) →
    (∀ b ∈ frames, b.length < 4294967296) →
    readAll StreamExample.h (streamOf frames) = (rvOfList [StreamExample.g1, StreamExample.o2], .eof) :=
  fun st' frames hw hsz => C01_stream_roundtrip _ _ _ st' frames hw StreamExample.histG hsz
-- non-vacuity of C01_stream_roundtrip_failed_writes: a concrete history (first write of the type fails after its
-- descriptor frame, the next record is good) meets every hypothesis (Lemmas/StreamExample.lean, `histF`)
example : ∀ st' frames, writeHist WState.init [(StreamExample.o1, some 1), (StreamExample.o2, none)] = some (st', frames) →
    (∀ b ∈ frames, b.length < 4294967296) →
    readAll StreamExample.h (streamOf frames) = (rvOfList [StreamExample.o2], .eof) :=
  fun st' frames hw hsz =>
    C01_stream_roundtrip_failed_writes StreamExample.h _ _ st' frames hw StreamExample.histF hsz
-- the field-layer hypotheses are met by ordinary values: a lower-case digest, a list of ports, an IPv6 address
example : FieldPack.WFT (fun _ t => t) .digest (.digest (some [97, 98]) none none) := ⟨⟨by decide, by decide⟩, trivial, trivial⟩
example : FieldPack.WFT (fun _ t => t) (.list .int) (.list [.int 80, .int 443]) :=
  ⟨by simp, trivial, by simp, trivial, trivial⟩
example : FieldPack.WFT (fun _ t => t) .ip (.ip 6 4294967296) := Or.inr ⟨rfl, by decide, by decide⟩
end C01_nonvacuous
