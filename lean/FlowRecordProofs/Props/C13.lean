import FlowRecordProofs.Lemmas.Zone
import FlowRecordProofs.Lemmas.IsoText
import FlowRecordProofs.Lemmas.Instant
import FlowRecord.Gen.Formats
/-!
C13 — timestamps are timezone-aware and keep their instant everywhere.

The model (`FlowRecord/Model/DateTime.lean`) is tied to /repo by `harness/props/C13.py`.
Nothing here is assumed about CPython's calendar: the day-number functions are concrete and proved inverse.
What *is* outside the model: `zoneinfo` (a zone value carries the offsets the zone assigns to its wall time).
None of `toIso`, `packDt`, `toMicros`, `instant`, `construct` takes a display-zone argument; only `render` does.
-/
open FlowRecord FlowRecord.DateTime

/-- Facts read off the current source that the model's branches transcribe: UTC values are packed as the 7-tuple,
    everything else as ISO text; the constructor passes wall fields, `tzinfo or UTC` and `fold` on, reads naive as
    UTC, epoch numbers in UTC and text through `fromisoformat`; the binary reader calls the constructor; JSON and
    SQLite store `isoformat()`, Avro `timestamp-micros`; only `__str__`/`__repr__` of one file read the display zone. -/
theorem C13_inst :
    Gen.dtTupleWhenUtc = true ∧ Gen.dtIsoOtherwise = true ∧ Gen.datetimeCtorKeepsFold = true ∧
    (∀ f ∈ Gen.displayTzReaders, f ∈ ["__str__", "__repr__"]) ∧
    Gen.displayTzFiles = ["flow/record/fieldtypes/__init__.py"] ∧
    Gen.datetimeCtorNaiveIsUtc = true ∧ Gen.datetimeCtorEpochUtc = true ∧ Gen.datetimeCtorIsoCall = true ∧
    Gen.datetimeCtorObjTz = true ∧
    Gen.datetimeCtorObjArgs = ["cls", "arg.year", "arg.month", "arg.day", "arg.hour", "arg.minute", "arg.second",
      "arg.microsecond", "tzinfo", "fold=arg.fold"] ∧
    Gen.unpackDatetimeCall = "fieldtypes.datetime(*value)" ∧
    Gen.jsonDatetimeBody = ["serial = obj.isoformat()", "return serial"] ∧
    Gen.sqliteDatetimeExpr = "value.isoformat()" ∧
    Gen.avroDatetimeSchema = "[{'type': 'long', 'logicalType': 'timestamp-micros'}, {'type': 'null'}]" ∧
    Gen.avroWritesPackdict = true :=
  ⟨rfl, rfl, rfl, by decide, rfl, rfl, rfl, rfl, rfl, rfl, rfl, rfl, rfl, rfl, rfl⟩

/-- Every value the field constructor returns — from an object, ISO text, an epoch integer or the unpacked
    7-tuple — is timezone-aware. -/
theorem C13_aware (inp : Input) (r : DT) (h : construct inp = some r) : r.tz ≠ .naive :=
  (construct_some h).1

/-- Every value the constructor returns is a valid datetime (given a valid object in the object case). -/
theorem C13_construct_valid (inp : Input) (r : DT) (hin : ∀ t, inp = .obj t → t.Valid)
    (h : construct inp = some r) : r.Valid :=
  (construct_some h).2 hin

/-- ISO text: for EVERY valid datetime whose offset is printable (zero, or at least one second in magnitude —
    in particular every whole-second offset, years 1 and 9999 with extreme offsets, offsets with seconds, fold and
    gap wall times) parsing what `isoformat()` prints gives back the same wall clock with the same UTC offset. -/
theorem C13_iso_roundtrip (t : DT) (hv : t.Valid) (hp : OffsetPrintable t) :
    parseIso (toIso t) = some (fixedView t) :=
  parseIso_toIso t hv hp

/-- `fixedView` keeps wall clock, UTC offset and therefore the instant. -/
theorem C13_fixedView_same (t : DT) :
    (fixedView t).y = t.y ∧ (fixedView t).mo = t.mo ∧ (fixedView t).d = t.d ∧ (fixedView t).h = t.h ∧
    (fixedView t).mi = t.mi ∧ (fixedView t).s = t.s ∧ (fixedView t).us = t.us ∧
    (fixedView t).tz.off = t.tz.off ∧ instant (fixedView t) = instant t := by
  have hoff : (fixedView t).tz.off = t.tz.off := by
    rw [fixedView_eq]; exact fixedTz_off t.tz
  refine ⟨rfl, rfl, rfl, rfl, rfl, rfl, rfl, hoff, ?_⟩
  unfold instant
  rw [hoff]
  rfl

/-- The full-strength ISO statement (no restriction on the offset). -/
def C13_iso_statement : Prop := ∀ t : DT, t.Valid → parseIso (toIso t) = some (fixedView t)

/-- It is false, of the model and of CPython: a sub-second offset whose h/m/s part is zero is printed as
    `+00:00:00.000001` and read back as UTC. This is the documented domain boundary (`OffsetPrintable`). -/
theorem C13_iso_subsecond_counterexample : ¬ C13_iso_statement := by
  intro h
  have := h ⟨2000, 1, 1, 0, 0, 0, 0, .fixed 1⟩ (by decide)
  revert this
  decide

/-- The object branch keeps wall clock and `tzinfo` — including `fold` — so the field value is the same instant
    as the datetime it was built from (naive input read as UTC). Depends on the extracted flag
    `datetimeCtorKeepsFold`: on the pinned tree (fold dropped) this statement failed for fold = 1 in an overlap. -/
theorem C13_construct_instant (t : DT) :
    construct (.obj t) = some (naiveAsUtc t) ∧ instant (naiveAsUtc t) = instant t ∧
    (naiveAsUtc t).tz.off = t.tz.off :=
  ⟨by rw [construct, rebuildTz_eq], naiveAsUtc_instant t, naiveAsUtc_off t⟩

/-- Binary record stream: a UTC value travels as the 7-tuple and comes back identical; any other aware value
    travels as ISO text and comes back with the same wall clock and offset. -/
theorem C13_binary (t : DT) (hv : t.Valid) (haw : t.tz ≠ .naive) (hp : OffsetPrintable t) :
    viaBinary t = some (fixedView t) ∧ (t.tz = .utc → viaBinary t = some t) := by
  have hflag : Gen.dtTupleWhenUtc = true := by decide
  have hutc : t.tz = .utc → viaBinary t = some t := by
    intro hu
    simp only [viaBinary, packDt, hu, utcEq, hflag, Bool.and_self, if_true, unpackDt, construct]
    rw [if_pos (withTz_valid t .naive hv trivial)]
    simp only [naiveAsUtc, ← hu]
  refine ⟨?_, hutc⟩
  by_cases hu : t.tz = .utc
  · rw [hutc hu, fixedView_utc t hu]
  · have hne : utcEq t.tz = false := by
      cases htz : t.tz with
      | naive => exact absurd htz haw
      | utc => exact absurd htz hu
      | fixed | zone => rfl
    simp only [viaBinary, packDt, hne, Bool.false_and, Bool.false_eq_true, if_false, unpackDt]
    exact construct_toIso t hv haw hp

/-- JSON lines: `isoformat()` out, record constructor in: same wall clock and UTC offset. -/
theorem C13_json (t : DT) (hv : t.Valid) (haw : t.tz ≠ .naive) (hp : OffsetPrintable t) :
    viaJson t = some (fixedView t) :=
  construct_toIso t hv haw hp

/-- SQLite: the same text in a TIMESTAMPTZ column. -/
theorem C13_sqlite (t : DT) (hv : t.Valid) (haw : t.tz ≠ .naive) (hp : OffsetPrintable t) :
    viaSqlite t = some (fixedView t) :=
  C13_json t hv haw hp

/-- The calendar the Avro arithmetic stands on, proved (not assumed): civil date -> day number -> civil date is
    the identity on every valid date from year 1 on, day number -> civil date -> day number is the identity on all
    day numbers, and day numbers of 0001-01-01 .. 9999-12-31 are exactly valid dates of years 1..9999. -/
theorem C13_calendar :
    (∀ y m d, 1 ≤ y → 1 ≤ m → m ≤ 12 → 1 ≤ d → d ≤ daysInMonth y m → civilFromDays (daysFromCivil y m d) = (y, m, d)) ∧
    (∀ z, daysFromCivil (civilFromDays z).1 (civilFromDays z).2.1 (civilFromDays z).2.2 = z) ∧
    (∀ z, 306 ≤ z → z < 3652365 →
      1 ≤ (civilFromDays z).1 ∧ (civilFromDays z).1 ≤ 9999 ∧ 1 ≤ (civilFromDays z).2.1 ∧ (civilFromDays z).2.1 ≤ 12 ∧
      1 ≤ (civilFromDays z).2.2 ∧ (civilFromDays z).2.2 ≤ daysInMonth (civilFromDays z).1 (civilFromDays z).2.1) :=
  ⟨civil_days, fun _ => days_civil rfl, fun _ h1 h2 => civil_valid h1 h2 rfl⟩

/-- Avro (timestamp-micros): whenever the UTC instant lies in years 1..9999, the value read back is a valid UTC
    datetime denoting exactly the same instant (to the microsecond); a UTC value comes back identical; outside
    that range reading fails (CPython: OverflowError) instead of returning a different instant. -/
theorem C13_avro (t : DT) (hv : t.Valid) :
    (0 ≤ instant t → instant t < 315537897600000000 →
      ∃ r, viaAvro t = some r ∧ r.tz = .utc ∧ r.Valid ∧ instant r = instant t) ∧
    (t.tz = .utc → viaAvro t = some t) ∧
    (¬ (0 ≤ instant t ∧ instant t < 315537897600000000) → viaAvro t = none) := by
  rw [viaAvro_eq]
  exact ⟨fun h0 h1 => fromInstant_some _ ⟨h0, h1⟩, fromInstant_instant t hv, fun hn => if_neg hn⟩

/-- Epoch input: an integer number of seconds becomes the UTC datetime of exactly that instant (micros = n·10^6);
    numbers outside years 1..9999 are refused (CPython: ValueError / OverflowError), never wrapped. -/
theorem C13_epoch (n : Int) :
    (∀ r, construct (.epoch n) = some r → r.tz = .utc ∧ r.Valid ∧ toMicros r = n * 1000000) ∧
    (¬ (0 ≤ n * 1000000 + 62135596800000000 ∧ n * 1000000 + 62135596800000000 < 315537897600000000) →
      construct (.epoch n) = none) := by
  rw [construct_epoch]
  refine ⟨fun r h => ?_, fun hn => if_neg hn⟩
  obtain ⟨hutc, hv, hi⟩ := fromInstant_spec h
  exact ⟨hutc, hv, by unfold toMicros; omega⟩

/-- End to end: whatever the input form, a constructed value with a printable offset keeps its wall clock and
    UTC offset through the binary stream, JSON and SQLite, and its instant (as a UTC value) through Avro whenever
    that instant lies in years 1..9999. -/
theorem C13_all_formats (inp : Input) (t : DT) (hin : ∀ x, inp = .obj x → x.Valid) (h : construct inp = some t)
    (hp : OffsetPrintable t) :
    viaBinary t = some (fixedView t) ∧ viaJson t = some (fixedView t) ∧ viaSqlite t = some (fixedView t) ∧
    (0 ≤ instant t → instant t < 315537897600000000 →
      ∃ r, viaAvro t = some r ∧ r.tz = .utc ∧ r.Valid ∧ instant r = instant t) := by
  have hv := C13_construct_valid inp t hin h
  have haw := C13_aware inp t h
  exact ⟨(C13_binary t hv haw hp).1, C13_json t hv haw hp, C13_sqlite t hv haw hp, (C13_avro t hv).1⟩

/-- A UTC value is determined by its instant: two valid UTC datetimes with the same instant are equal
    (so "the UTC-normalised value" of an instant is unique). -/
theorem C13_utc_unique (a b : DT) (ha : a.Valid) (hb : b.Valid) (hau : a.tz = .utc) (hbu : b.tz = .utc)
    (h : instant a = instant b) : a = b :=
  instant_inj_of_tz_eq ha hb (hau.trans hbu.symm) h

/-- Display: whatever offset the display zone assigns, the value that gets printed denotes the same instant as the
    stored one; storing, packing, comparing never see the display zone (they have no such argument). -/
theorem C13_display_same_instant (t : DT) (o : Int) (h0 : 0 ≤ instant t + o)
    (h1 : instant t + o < 315537897600000000) :
    render (some o) t = some (isoSpace (ofWallUs (instant t + o).toNat (normOff o))) ∧
    instant (ofWallUs (instant t + o).toNat (normOff o)) = instant t := by
  refine ⟨by simp only [render, if_pos (And.intro h0 h1)], ?_⟩
  rw [instant_ofWallUs, normOff_off]
  omega

-- Non-vacuity: concrete values meet the hypotheses and the definitions compute what CPython prints.
namespace C13_nonvacuous
/-- 2020-10-25 02:30 Europe/Amsterdam, second occurrence (fold = 1): +02:00 for fold 0, +01:00 for fold 1. -/
def ams : DT := ⟨2020, 10, 25, 2, 30, 0, 0, .zone 7200000000 3600000000 true⟩
example : ams.Valid ∧ OffsetPrintable ams ∧ ams.tz ≠ .naive := by decide
-- "2020-10-25T02:30:00+01:00"
example : toIso ams = [50,48,50,48,45,49,48,45,50,53,84,48,50,58,51,48,58,48,48,43,48,49,58,48,48] := by decide
example : viaJson ams = some ⟨2020, 10, 25, 2, 30, 0, 0, .fixed 3600000000⟩ := by decide
example : construct (.obj ams) = some ams := by decide
/-- year 1 with +05:00: ISO keeps it, Avro cannot represent the instant -/
def y1 : DT := ⟨1, 1, 1, 0, 0, 0, 0, .fixed 18000000000⟩
example : y1.Valid ∧ OffsetPrintable y1 ∧ instant y1 < 0 := by decide
example : toMicros ⟨1970, 1, 1, 0, 0, 0, 0, .utc⟩ = 0 := by decide
example : fromMicros (-1) = some ⟨1969, 12, 31, 23, 59, 59, 999999, .utc⟩ := by decide
example : fromMicros 253402300799999999 = some ⟨9999, 12, 31, 23, 59, 59, 999999, .utc⟩ := by decide
example : fromMicros 253402300800000000 = none := by decide
end C13_nonvacuous
