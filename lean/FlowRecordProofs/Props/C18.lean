import FlowRecordProofs.Lemmas.KwCtor
import FlowRecordProofs.Lemmas.Sqlite
import FlowRecordProofs.Lemmas.SqliteSessions
import FlowRecordProofs.Lemmas.Readers
/-!
C18 — SQLite export keeps every record, independent of batch size.

The model is `FlowRecord/Model/Sqlite.lean`: the writer as
a state machine over `committed` (what another connection sees) and `work` (the writer's own view); histories are
lists of `write | flush | close` calls, `write` being `ensure` (DDL + commit for a new descriptor) then `insert`.
Runtime hypotheses (never axioms): `SqliteLaws` (type affinity), `IsoLaws` (ISO-8601 print/parse, C13), and the
reading of `committed` as "what a second connection observes" (SQLite's isolation) — all exercised by harness/props/C18.py.
`accepted … = true` says SQLite accepted every DDL statement of the history (no two columns equal up to case).
-/
open FlowRecord FlowRecord.Sqlite

/-- The writer's own view is the plain replay of the history (DDL for every write, then its insert) — whatever the
    batch size, the flushes and the `descriptors_seen` cache did. With `C18_atomic` this is DESIGN's
    "committed ++ pending = rows written so far". -/
theorem C18_work_is_replay {DT : Type} (E : Env DT) (b : Nat) (ops : List (Op DT))
    (hacc : accepted E.store [] (writesOf E ops) = true) :
    (run E (init b) ops).work = specTables E.store (writesOf E ops) :=
  run_work E (cacheSound_of_seen_nil rfl rfl) hacc

/-- After `close` (anywhere in the history; later calls change nothing) everything is committed: another connection
    sees exactly the replayed tables, and in each of them one row per record written to a type of that name, in write
    order, each row holding the converted values under the record's field names. -/
theorem C18_close_complete {DT : Type} (E : Env DT) (b : Nat) (ops : List (Op DT))
    (hclose : ∃ pre suf, ops = pre ++ Op.close :: suf)
    (hacc : accepted E.store [] (writesOf E ops) = true) :
    (run E (init b) ops).committed = specTables E.store (writesOf E ops) ∧
    (run E (init b) ops).isOpen = false ∧
    ∀ n : Text, RowsStored E.store (writesFor n (writesOf E ops)) (rowsOf (run E (init b) ops).committed n) := by
  replace hclose := List.mem_iff_append.mpr hclose
  have hc : (run E (init b) ops).committed = specTables E.store (writesOf E ops) := by
    rw [run_committed_of_close E rfl hclose]
    exact C18_work_is_replay E b ops hacc
  refine ⟨hc, run_closed_of_close E _ hclose, fun n => ?_⟩
  obtain ⟨rows, hr, hs⟩ := rowsOf_foldl E.store n (writesOf E ops) []
  rw [hc, specTables, hr]; exact hs

/-- Batch-size independence: for every history containing a `close` and any two batch sizes ≥ 1 (Python raises
    ZeroDivisionError for 0), the final committed databases are identical — tables, columns and rows. No assumption
    about the history (refused values, refused DDL, writes after close included). -/
theorem C18_batch_independent {DT : Type} (E : Env DT) (b₁ b₂ : Nat) (_h₁ : 1 ≤ b₁) (_h₂ : 1 ≤ b₂)
    (ops : List (Op DT)) (hclose : ∃ pre suf, ops = pre ++ Op.close :: suf) :
    (run E (init b₁) ops).committed = (run E (init b₂) ops).committed := by
  replace hclose := List.mem_iff_append.mpr hclose
  rw [run_committed_of_close E rfl hclose, run_committed_of_close E rfl hclose]
  exact congrArg View.work ((run_view E ops (init b₁)).trans (run_view E ops (init b₂)).symm)

/-- …and at *every* point of every history the writer's own view, the descriptor cache, the open flag and the record
    count do not depend on the batch size (only the moment of visibility does). -/
theorem C18_batch_independent_view {DT : Type} (E : Env DT) (b₁ b₂ : Nat) (ops : List (Op DT)) :
    (run E (init b₁) ops).work = (run E (init b₂) ops).work ∧
    (run E (init b₁) ops).count = (run E (init b₂) ops).count := by
  have := (run_view E ops (init b₁)).trans (run_view E ops (init b₂)).symm
  exact ⟨congrArg View.work this, congrArg View.count this⟩

/-- Atomic visibility. At every point of every history — between calls and inside `write` between its DDL and its
    INSERT (`ms` is any sequence of steps; a history of calls is `expand ops`) — what another connection sees is the
    writer's view as it was right after the most recent commit point, and no later step has committed. Commit points
    are exactly `commits`: flush, close, the DDL of a new descriptor, every `batch`-th successful insert. Before the
    first commit point the database is empty. So a reader sees whole transactions only. -/
theorem C18_atomic {DT : Type} (E : Env DT) (b : Nat) (ms : List (Step DT)) :
    (quiet E (init b) ms = true ∧ (runSteps E (init b) ms).committed = []) ∨
    (∃ p m suf, ms = (p ++ [m]) ++ suf ∧ commits E (runSteps E (init b) p) m = true ∧
      (runSteps E (init b) ms).committed = (runSteps E (init b) (p ++ [m])).work ∧
      quiet E (runSteps E (init b) (p ++ [m])) suf = true) :=
  visible_from E ms (init b)

/-- The same for a history of public calls. -/
theorem C18_atomic_calls {DT : Type} (E : Env DT) (b : Nat) (ops : List (Op DT)) :
    (quiet E (init b) (expand ops) = true ∧ (run E (init b) ops).committed = []) ∨
    (∃ p m suf, expand ops = (p ++ [m]) ++ suf ∧ commits E (runSteps E (init b) p) m = true ∧
      (run E (init b) ops).committed = (runSteps E (init b) (p ++ [m])).work ∧
      quiet E (runSteps E (init b) (p ++ [m])) suf = true) := by
  rw [run_eq_runSteps]; exact C18_atomic E b (expand ops)

/-- …and, table by table, the rows another connection sees are a prefix of the rows the writer has inserted so far
    (`committed ++ pending = written so far`): nothing is visible that was not written, in the order written. -/
theorem C18_visible_is_prefix {DT : Type} (E : Env DT) (b : Nat) (ms : List (Step DT)) (n : Text) :
    ∃ pending, rowsOf (runSteps E (init b) ms).work n = rowsOf (runSteps E (init b) ms).committed n ++ pending :=
  (committed_prefix E ms (s := init b) (fun _ => List.prefix_rfl) n).imp fun _ => Eq.symm

/-- Schema ⊇: after any history, for every descriptor handed to `write` before the first close, the name resolves to
    a table and every table it resolves to has a column for every field of that descriptor (so a type of the same
    name that gained fields got its columns added). -/
theorem C18_schema {DT : Type} (E : Env DT) (b : Nat) (ops : List (Op DT))
    (hacc : accepted E.store [] (writesOf E ops) = true) :
    ∀ w ∈ writesOf E ops,
      (∃ t ∈ (run E (init b) ops).work, sameIdent t.name w.1.name = true) ∧
      ∀ t ∈ (run E (init b) ops).work, sameIdent t.name w.1.name = true → ∀ f ∈ w.1.fields, f.1 ∈ colNames t := by
  intro w hw
  rw [C18_work_is_replay E b ops hacc]
  exact covered_foldl E.store (writesOf E ops) [] w hw

/-- When does SQLite accept every DDL statement of a history (the hypothesis `accepted` above)? Whenever the field
    names occurring in it — reserved fields included — are pairwise different up to ASCII case, no descriptor
    repeats a field name, and no type name begins with `sqlite_` (any case), the prefix SQLite reserves for its own
    tables. (The complement is two recorded findings: `a` and `A` in one type are refused, and so is a record type
    called `sqlite_x/y` — see `C18_reserved_prefix_refused`.) -/
theorem C18_accepted_of_case_distinct_fields {DT : Type} (E : Env DT) (ops : List (Op DT)) (U : List Text)
    (hU : ∀ a ∈ U, ∀ b ∈ U, sameIdent a b = true → a = b)
    (hfields : ∀ w ∈ writesOf E ops, (w.1.fields.map (·.1)).Nodup ∧ ∀ f ∈ w.1.fields, f.1 ∈ U)
    (hnames : ∀ w ∈ writesOf E ops, reservedName w.1.name = false) :
    accepted E.store [] (writesOf E ops) = true :=
  accepted_of_caseDistinct hU E.store (by intro t ht; cases ht) hfields hnames

/-- Recorded finding: a record type whose name begins with `sqlite_` (ASCII-case-insensitively) — a valid record type
    name — is refused by every writer state, whatever else the history holds: the first write of such a type is an
    OperationalError. -/
theorem C18_reserved_prefix_refused {DT : Type} (E : Env DT) (s : St) (d : Desc) (vals : List (PyVal DT))
    (hopen : s.isOpen = true) (hnew : s.seen.contains d = false) (hres : reservedName d.name = true) :
    (apply E s (.write d vals)).2 = .refused .ddl := by
  have hk : ddlOk s.work d = false := by simp [ddlOk, hres]
  have hnew' : d ∉ s.seen := by simpa using hnew
  simp [apply, step, hopen, hnew', hk]

/-- Quoting: for every name over the character set of valid type/field names (ASCII letters, digits, `_`, `/`) the
    identifier as embedded in the SQL text (`"name"`) is read back by the SQL lexer as exactly that name, and the rest
    of the statement is left alone — no name can close the quotes early. (`rest` is what follows in the statement;
    the adapter continues with a space, `,` or `)`, never with another quote.) -/
theorem C18_quote (n rest : Text) (hn : ∀ c ∈ n, nameChar c = true) (hrest : rest.head? ≠ some 34) :
    lexQuotedIdent (quoteIdent n ++ rest) = some (n, rest) ∧ (∀ c ∈ n, c ≠ 34) := by
  have hq : ∀ c ∈ n, c ≠ 34 := fun c hc h => by simpa [h, nameChar] using hn c hc
  exact ⟨lexQuotedIdent_quoteIdent n rest (fun h => hq 34 h rfl) hrest, hq⟩

/-- The character-set hypothesis of `C18_quote` is needed: a name containing `"` is cut short by the lexer. -/
theorem C18_quote_needs_grammar :
    lexQuotedIdent (quoteIdent [97, 34, 98] ++ [32]) = some ([97], [98, 34, 32]) := by decide

/-- Value round trip through writer, storage and reader, per field type (column and reader types taken from the
    extracted `FIELD_MAP` / `SQLITE_FIELD_MAP`): text, integers in [−2^63, 2^63), floats that are not NaN (opaque bit
    patterns; -0.0 comes back as +0.0), bytes, timestamps (ISO text, `IsoLaws`) and None come back as written. -/
theorem C18_values {DT : Type} (iso : DT → Text) (parse : Text → Option DT) (store : String → DbVal → DbVal)
    (L : SqliteLaws store) (I : IsoLaws iso parse store) :
    (∀ ft ∈ ["string", "wstring", "uri"], ∀ s : Text, s.any isSurrogate = false →
      (dbValue iso (.str s)).toOption.bind (fun x => readCell parse (readerType (colType ft)) (store (colType ft) x))
        = some (.str s)) ∧
    (∀ ft ∈ ["varint", "filesize", "uint32"], ∀ i : Int, int64Min ≤ i → i ≤ int64Max →
      (dbValue iso (.int i)).toOption.bind (fun x => readCell parse (readerType (colType ft)) (store (colType ft) x))
        = some (.int i)) ∧
    (∀ bits : Nat, isNaN bits = false → bits ≠ negZero →
      (dbValue iso (.float bits)).toOption.bind
        (fun x => readCell parse (readerType (colType "float")) (store (colType "float") x)) = some (.float bits)) ∧
    ((dbValue iso (PyVal.float negZero : PyVal DT)).toOption.bind
        (fun x => readCell parse (readerType (colType "float")) (store (colType "float") x)) = some (.float 0)) ∧
    (∀ bs : Bytes,
      (dbValue iso (.bytes bs)).toOption.bind
        (fun x => readCell parse (readerType (colType "bytes")) (store (colType "bytes") x)) = some (.bytes bs)) ∧
    (∀ d : DT,
      (dbValue iso (.datetime d)).toOption.bind
        (fun x => readCell parse (readerType (colType "datetime")) (store (colType "datetime") x))
        = some (.datetime d)) ∧
    (∀ ft ∈ ["string", "wstring", "uri", "varint", "filesize", "uint32", "float", "bytes", "datetime", "boolean"],
      (dbValue iso (PyVal.none : PyVal DT)).toOption.bind
        (fun x => readCell parse (readerType (colType ft)) (store (colType ft) x)) = some .none) := by
  have T := type_tables
  have hn : isNaN negZero = false := by decide
  refine ⟨?_, ?_, ?_, ?_, ?_, ?_, ?_⟩
  · intro ft hft s hs
    exact readCell_store_of "TEXT" "string" (T.text ft hft) T.readText (by simp [dbValue, hs]) (L.text_kept s) rfl
  · intro ft hft i h1 h2
    rcases T.int ft hft with h | h
    · exact readCell_store_of "BIGINT" "varint" h T.readBigint (by simp [dbValue, h1, h2]) (L.int_kept _ i (.inr rfl)) rfl
    · exact readCell_store_of "INTEGER" "varint" h T.readInteger (by simp [dbValue, h1, h2]) (L.int_kept _ i (.inl rfl)) rfl
  · intro bits hb hz
    exact readCell_store_of "REAL" "float" T.float T.readReal (by simp [dbValue, hb]) (L.real_kept bits hz) rfl
  · exact readCell_store_of "REAL" "float" T.float T.readReal (by simp [dbValue, hn]) L.negzero rfl
  · intro bs
    exact readCell_store_of "BLOB" "bytes" T.bytes T.readBlob rfl (L.blob_kept _ bs) rfl
  · intro d
    exact readCell_store_of "TIMESTAMPTZ" "datetime" T.datetime T.readTimestamptz rfl (I.iso_kept d)
      (by simp [readCell, I.parse_iso])
  · intro ft _
    exact readCell_store_of _ _ rfl rfl rfl (L.null_kept _) (by simp [readCell])

/-- Other field types (no entry in `FIELD_MAP`: column type TEXT) come back as their text form: `str(value)` for
    objects, the decimal digits for integers (uint16, ports, file modes, …). A boolean comes back as the integer 0/1. -/
theorem C18_values_other {DT : Type} (iso : DT → Text) (parse : Text → Option DT) (store : String → DbVal → DbVal)
    (L : SqliteLaws store) :
    (∀ ft : String, Gen.SQLITE_COLUMN_TYPE_MAP.lookup ft = none →
      (∀ s : Text, s.any isSurrogate = false →
        (dbValue iso (PyVal.other s : PyVal DT)).toOption.bind
          (fun x => readCell parse (readerType (colType ft)) (store (colType ft) x)) = some (.str s)) ∧
      (∀ i : Int, int64Min ≤ i → i ≤ int64Max →
        (dbValue iso (PyVal.int i : PyVal DT)).toOption.bind
          (fun x => readCell parse (readerType (colType ft)) (store (colType ft) x)) = some (.str (decimal i)))) ∧
    (∀ bv : Bool,
      (dbValue iso (PyVal.bool bv : PyVal DT)).toOption.bind
        (fun x => readCell parse (readerType (colType "boolean")) (store (colType "boolean") x))
        = some (.int (if bv then 1 else 0))) := by
  have T := type_tables
  refine ⟨?_, ?_⟩
  · intro ft hft
    have hc : colType ft = "TEXT" := by simp [colType, hft]
    constructor
    · intro s hs
      exact readCell_store_of "TEXT" "string" hc T.readText (by simp [dbValue, hs]) (L.text_kept s) rfl
    · intro i h1 h2
      exact readCell_store_of "TEXT" "string" hc T.readText (by simp [dbValue, h1, h2]) (L.int_as_text i) rfl
  · intro bv
    exact readCell_store_of "INTEGER" "varint" T.boolean T.readInteger rfl (L.int_kept _ _ (.inl rfl)) rfl

/-- Refusals are loud and lose nothing else: a value SQLite cannot take (integer outside 64 bits, lone surrogate)
    makes `write` raise, the row is not stored, the record count is not advanced and the open transaction keeps
    every earlier row. -/
theorem C18_refusal_keeps_pending {DT : Type} (E : Env DT) (s : St) (d : Desc) (vals : List (PyVal DT)) (r : Refusal)
    (hv : dbValues E.iso vals = .error r) :
    (step E s (.insert d vals)).1 = s ∧ (s.isOpen = true → vals.length = d.fields.length →
      (step E s (.insert d vals)).2 = .refused r) := by
  cases ho : s.isOpen with
  | false => simp [step, ho]
  | true =>
    by_cases ha : vals.length = d.fields.length <;> simp [step, ho, ha, hv]

/-- "One table per record type name" at full strength: after close every descriptor written has a table carrying
    exactly its name, holding exactly the records written under exactly that name. -/
def C18_one_table_per_type_statement : Prop :=
  ∀ (E : Env Unit) (b : Nat) (ops : List (Op Unit)),
    (∃ pre suf, ops = pre ++ Op.close :: suf) → accepted E.store [] (writesOf E ops) = true →
    ∀ w ∈ writesOf E ops, ∃ t ∈ (run E (init b) ops).committed, t.name = w.1.name ∧
      t.rows.length = ((writesOf E ops).filter (fun w' => w'.1.name == w.1.name && w'.2.isSome)).length

/-- False of model and code: SQLite resolves table names case-insensitively, so `t/c` and `T/C` share the table
    created first (known finding, replayed on the real code by the harness). -/
theorem C18_one_table_per_type_counterexample : ¬ C18_one_table_per_type_statement := by
  intro h
  let E : Env Unit := { iso := fun _ => [], store := affinityStore }
  let d1 : Desc := { name := [116, 47, 99], fields := [([120], "string")] }
  let d2 : Desc := { name := [84, 47, 67], fields := [([120], "string")] }
  let ops : List (Op Unit) := [.write d1 [.none], .write d2 [.none], .close]
  have := h E 1 ops ⟨[.write d1 [.none], .write d2 [.none]], [], rfl⟩ (by decide) (d2, some [([120], .null)]) (by decide)
  revert this
  decide +kernel

/-- What holds instead, for all histories: rows are grouped by the name *up to ASCII case* (this is the third
    conjunct of `C18_close_complete`). When the type names of the history are pairwise different up to case, that is
    one table per type name carrying exactly its name and its records. -/
theorem C18_one_table_per_type_partial {DT : Type} (E : Env DT) (b : Nat) (ops : List (Op DT))
    (hclose : ∃ pre suf, ops = pre ++ Op.close :: suf)
    (hacc : accepted E.store [] (writesOf E ops) = true)
    (hdistinct : ∀ w ∈ writesOf E ops, ∀ w' ∈ writesOf E ops, sameIdent w.1.name w'.1.name = true → w.1.name = w'.1.name) :
    ∀ w ∈ writesOf E ops, ∃ t ∈ (run E (init b) ops).committed, t.name = w.1.name ∧
      RowsStored E.store (writesFor w.1.name (writesOf E ops)) t.rows := by
  rw [(C18_close_complete E b ops hclose hacc).1]
  exact specTables_one_per_name (writesOf E ops) hdistinct

/-- Several writer sessions on one database file (each closed before the next opens, a later session re-issuing the
    DDL because it has seen no descriptor yet): what another connection sees at the end is the plain replay of the
    writes of ALL sessions, whatever the batch size — nothing an earlier session stored is lost or duplicated when the
    file is opened for writing again. -/
theorem C18_sessions_replay {DT : Type} (E : Env DT) (b : Nat) (ss : List (List (Op DT)))
    (hacc : accepted E.store [] (sessionWrites E ss) = true) :
    (runSessions E (noWriter b) ss).committed = specTables E.store (sessionWrites E ss) :=
  runSessions_committed E ss (noWriter b) hacc

/-- Cutting a history into sessions changes nothing: sessions without an inner `close` store exactly what ONE writer
    (of any batch size) stores for the concatenated history. -/
theorem C18_sessions_like_one_writer {DT : Type} (E : Env DT) (b b' : Nat) (ss : List (List (Op DT)))
    (hnc : ∀ ops ∈ ss, Op.close ∉ ops)
    (hacc : accepted E.store [] (writesOf E ss.flatten) = true) :
    (runSessions E (noWriter b) ss).committed = (run E (init b') (ss.flatten ++ [.close])).committed := by
  have hw := sessionWrites_of_no_close E hnc
  rw [C18_sessions_replay E b ss (by rw [hw]; exact hacc), hw]
  have h2 := (C18_close_complete E b' (ss.flatten ++ [.close]) ⟨ss.flatten, [], rfl⟩
    (by rw [writesOf_append_close]; exact hacc)).1
  rw [h2, writesOf_append_close]

/-- Reading is independent of the reader's batch size, with or without a selector: `read_table` fetches
    `batch_size` rows at a time and stops at the first EMPTY fetch (`Gen.sqliteReadTableBatches`), and the selector is
    consulted in `__iter__`, after the batches, not inside the fetch loop (`Gen.sqliteReadTableConsultsSelector = false`: a
    batch without a single match is not the end of the table). So for every batch size >= 1, every database (tables of
    rows), every row decoder and every selector, the reader yields what it yields when each table is fetched in one
    piece - and with a selector that is exactly: read everything, filter afterwards. -/
theorem C18_reader_independent_of_batch_size {X R E : Type} (mk : X → Except E R)
    (sel : Option (Readers.Matcher R E)) (tables : List (List X)) (batch : Nat) (hb : 1 ≤ batch) :
    Gen.sqliteReadTableBatches = true ∧ Gen.sqliteReadTableConsultsSelector = false ∧
    Readers.sqliteLoop Readers.genCfg.sqliteGuarded mk sel (tables.map (Readers.tableBatches batch)) =
      Readers.sqliteLoop Readers.genCfg.sqliteGuarded mk sel (tables.map fun rows => [rows]) := by
  refine ⟨rfl, rfl, ?_⟩
  simp only [Readers.sqliteLoop, List.flatMap_map, List.flatMap_id, Readers.tableBatches_flatten batch hb,
    List.flatten_singleton]

/-- READERS BUILD RECORDS BY KEYWORD: for record types with a field named like a Python keyword the generated
    constructor assigns `kwargs.get(k, v)` - a value handed over by keyword is the slot's value also when it is falsy
    (0, "", False, an empty list), and `_unpack` tests `is not None`. The template text is regenerated from the source
    and must equal the frozen text this meaning belongs to. -/
theorem C18_keyword_constructor_keeps_values {V : Type} (x pos : V) :
    (FlowRecord.Gen.tplKwInit = FlowRecord.KwCtor.frozenInit ∧ FlowRecord.Gen.tplKwUnpack = FlowRecord.KwCtor.frozenUnpack) ∧
    FlowRecord.KwCtor.slotValue (some x) pos = x ∧ FlowRecord.KwCtor.slotValue (none : Option V) pos = pos :=
  ⟨KwCtor.template_is_frozen, KwCtor.slotValue_keyword x pos, KwCtor.slotValue_positional pos⟩

namespace C18_nonvacuous
example : Readers.tableBatches 2 [1, 2, 3, 4, 5] = [[1, 2], [3, 4], [5]] := by decide
def E : Env Unit := { iso := fun _ => [50, 48], store := affinityStore }
def dA : Desc := { name := [116, 47, 97], fields := [([115], "string"), ([110], "varint")] }
def dA2 : Desc := { name := [116, 47, 97], fields := [([115], "string"), ([110], "varint"), ([98], "bytes")] }
def dB : Desc := { name := [116, 47, 98], fields := [([116, 115], "datetime")] }
def hist : List (Op Unit) :=
  [.write dA [.str [120], .int 1], .write dA [.str [121], .int 2], .write dA [.str [122], .int (2 ^ 63)],
   .write dA2 [.str [119], .int 3, .bytes [0, 1]], .write dB [.datetime ()], .flush, .write dA [.none, .none], .close,
   .write dA [.none, .none]]
example : accepted E.store [] (writesOf E hist) = true := by decide
example : ∃ pre suf, hist = pre ++ Op.close :: suf := ⟨hist.take 7, hist.drop 8, rfl⟩
-- batch size 2: after the second write both rows are visible, after the third call (refused: 2^63) still two
example : ((trace E (init 2) hist).map (fun r => (r.1.committed.map (fun t => t.rows.length), r.2))) =
    [([0], .ok), ([2], .ok), ([2], .refused .overflow), ([2], .ok), ([3, 1], .ok), ([3, 1], .ok), ([3, 1], .ok),
     ([4, 1], .ok), ([4, 1], .refused .closed)] := by decide +kernel
example : (run E (init 2) hist).committed = (run E (init 1000) hist).committed := by decide +kernel
example : ((run E (init 7) hist).committed.map (fun t => (t.name, colNames t))) =
    [([116, 47, 97], [[115], [110], [98]]), ([116, 47, 98], [[116, 115]])] := by decide +kernel
-- a history SQLite refuses (columns `a` and `A`) does not meet `accepted`
example : accepted E.store [] (writesOf E [Op.write { name := [116], fields := [([97], "string"), ([65], "string")] }
    [.none, .none]]) = false := by decide
-- the reserved prefix: `SQLite_x` is refused, `sqlite/page` and `sqlitex` are ordinary names
example : reservedName [83, 81, 76, 105, 116, 101, 95, 120] = true := by decide
example : reservedName [115, 113, 108, 105, 116, 101, 47, 112] = false := by decide
example : accepted E.store [] (writesOf E [Op.write { name := [115, 113, 108, 105, 116, 101, 95, 120], fields := [([97], "string")] }
    [.none]]) = false := by decide
example : SqliteLaws affinityStore := affinityStore_laws
-- three sessions: the type gains a field in the second, the third adds a row of the first layout
def sess : List (List (Op Unit)) :=
  [[.write dA [.str [120], .int 1], .write dB [.datetime ()]], [.write dA2 [.str [119], .int 3, .bytes [0, 1]]],
   [.write dA [.none, .int (2 ^ 63)], .write dA [.str [121], .int 2]]]
example : accepted E.store [] (sessionWrites E sess) = true := by decide
example : ∀ ops ∈ sess, Op.close ∉ ops := by decide
example : ((runSessions E (noWriter 2) sess).committed.map (fun t => (t.name, colNames t, t.rows.length))) =
    [([116, 47, 97], [[115], [110], [98]], 3), ([116, 47, 98], [[116, 115]], 1)] := by decide +kernel
end C18_nonvacuous
