import FlowRecordProofs.Lemmas.FieldPack
import FlowRecordProofs.Lemmas.Framing
import FlowRecordProofs.Lemmas.SameDoc
import FlowRecord.Spec.Wire
/-! C02 — written bytes conform to the frozen RecordStream wire format. -/
open FlowRecord FlowRecord.Msgpack FlowRecord.Stream FlowRecord.Wire

/-- Inst: every wire constant read off the current source equals the frozen, hand-typed specification.
    (A symmetric edit of writer and reader keeps all round-trip tests green and breaks exactly this.) -/
theorem C02_constants_frozen :
    Gen.RECORDSTREAM_MAGIC = Spec.magic ∧ Gen.RECORD_PACK_EXT_TYPE = Spec.extType ∧
    Gen.RECORD_PACK_TYPE_RECORD = Spec.subRecord ∧ Gen.RECORD_PACK_TYPE_DESCRIPTOR = Spec.subDescriptor ∧
    Gen.RECORD_PACK_TYPE_FIELDTYPE = Spec.subFieldtype ∧ Gen.RECORD_PACK_TYPE_DATETIME = Spec.subDatetime ∧
    Gen.RECORD_PACK_TYPE_VARINT = Spec.subVarint ∧ Gen.RECORD_PACK_TYPE_GROUPEDRECORD = Spec.subGrouped ∧
    Gen.RECORD_VERSION = Spec.recordVersion ∧ Gen.RESERVED_FIELDS = Spec.reservedFields ∧
    Gen.lenFormatWrite = Spec.lengthFormat ∧ Gen.lenFormatRead = Spec.lengthFormat ∧
    Gen.lenPrefixBytes = Spec.lengthBytes :=
  ⟨rfl, rfl, rfl, rfl, rfl, rfl, rfl, rfl, rfl, rfl, rfl, rfl, rfl⟩

/-- Inst: the descriptor identifier is computed over name ++ concat(fieldname ++ fieldtype), first 4 digest bytes,
    big endian; packb/unpackb options are the published ones; the datetime/varint encodings have the published
    shape (7-tuple when UTC else ISO text; sign flag + big-endian magnitude). -/
theorem C02_identifier_and_options_frozen :
    Gen.hashInputNameFirst = Spec.hashNameFirst ∧ Gen.hashDigestBytes = Spec.hashDigestBytes ∧
    Gen.hashBigEndian = Spec.hashBigEndian ∧ Gen.packbOptions = Spec.packOptions ∧
    Gen.unpackbOptions = Spec.unpackOptions ∧ Gen.unpackUsesTuples = true ∧ Gen.unpackHasExtHook = true ∧
    Gen.dtTupleWhenUtc = true ∧ Gen.dtIsoOtherwise = true ∧ Gen.varintSignMagnitude = true ∧
    Gen.packObjOrder = ["datetime", "int", "GroupedRecord", "Record", "RecordDescriptor"] :=
  ⟨rfl, rfl, rfl, rfl, rfl, rfl, rfl, rfl, rfl, rfl, rfl⟩

/-- The model's SHA-256 (the one behind `Spec.descriptorHash`) reproduces the standard test vectors - checked by the
    kernel's own evaluation of the definition: the empty message, "abc", and the two-block message of FIPS 180-4. -/
theorem C02_sha256_vectors :
    Sha256.sha256 [] =
      [0xe3, 0xb0, 0xc4, 0x42, 0x98, 0xfc, 0x1c, 0x14, 0x9a, 0xfb, 0xf4, 0xc8, 0x99, 0x6f, 0xb9, 0x24,
       0x27, 0xae, 0x41, 0xe4, 0x64, 0x9b, 0x93, 0x4c, 0xa4, 0x95, 0x99, 0x1b, 0x78, 0x52, 0xb8, 0x55] ∧
    Sha256.sha256 [97, 98, 99] =
      [0xba, 0x78, 0x16, 0xbf, 0x8f, 0x01, 0xcf, 0xea, 0x41, 0x41, 0x40, 0xde, 0x5d, 0xae, 0x22, 0x23,
       0xb0, 0x03, 0x61, 0xa3, 0x96, 0x17, 0x7a, 0x9c, 0xb4, 0x10, 0xff, 0x61, 0xf2, 0x00, 0x15, 0xad] ∧
    Sha256.sha256 "abcdbcdecdefdefgefghfghighijhijkijkljklmklmnlmnomnopnopq".toUTF8.toList =
      [0x24, 0x8d, 0x6a, 0x61, 0xd2, 0x06, 0x38, 0xb8, 0xe5, 0xc0, 0x26, 0x93, 0x0c, 0x3e, 0x60, 0x39,
       0xa3, 0x3c, 0xe4, 0x59, 0x64, 0xff, 0x21, 0x67, 0xf6, 0xec, 0xed, 0xd4, 0x19, 0xdb, 0x06, 0xc1] := by
  decide +kernel

/-- The identifier rule as published, on the descriptor every golden stream starts with: `test/golden`-style names
    are hashed as `name ++ concat(fieldname ++ fieldtype)`; here the identifier of `t/x [(string, a)]`. -/
theorem C02_identifier_example :
    Spec.descriptorHash [116, 47, 120] [([115, 116, 114, 105, 110, 103], [97])] =
      some (Sha256.hash32 [116, 47, 120, 97, 115, 116, 114, 105, 110, 103]) := by
  -- the rule is about WHICH bytes are hashed: only the text encoding is evaluated, SHA-256 is not
  have h : Utf8.encodeSE [116, 47, 120, 97, 115, 116, 114, 105, 110, 103] =
      some [116, 47, 120, 97, 115, 116, 114, 105, 110, 103] := by decide
  exact congrArg (Option.map Sha256.hash32) h

/-- The header frame the model's writer emits first is the published one: length 15, bin8, 13, "RECORDSTREAM\n". -/
theorem C02_header_frame : frameBytes magicBody = Spec.headerFrame := by decide

/-- Every frame the writer produces is a 4-byte big-endian length followed by ONE msgpack value: an independent
    reader that splits at the length and decodes one document gets exactly the value that was packed, for every
    well-formed value and whatever follows. -/
theorem C02_frame_is_length_plus_document (v : MVal) (rest : Bytes) (hw : WF v)
    (hl : (enc v).length < 4294967296) :
    nextFrame (frameBytes (enc v) ++ rest) = some (enc v, rest) ∧ decode (enc v) = .ok v :=
  ⟨nextFrame_frame _ _ hl, decode_enc v hw⟩

/-- The extension envelope: the payload of the type-14 extension is itself one msgpack document
    `[sub-type, payload]`, which decodes back to exactly that pair. -/
theorem C02_envelope_document (sub : Nat) (p : MVal) (hs : sub < 128) (hp : WF p) :
    envelope sub p = .ext Spec.extType (enc (.arr [.int sub, p])) ∧
    decode (enc (.arr [.int sub, p])) = .ok (.arr [.int sub, p]) :=
  ⟨rfl, decode_envelope sub p hs hp⟩

/-- The big-integer encoding: sign flag and minimal big-endian magnitude, inverse of `int.from_bytes(·, 'big')`
    for every natural number (so for every integer, with the sign flag). -/
theorem C02_varint_magnitude (n : Nat) : beDec (magBytes n) = n := beDec_magBytes n

/-- Records carrying extra trailing metadata fields keep their declared fields and the version (`slotCount`: a field
    name a descriptor lists twice counts once, as in `len(desc.fields)`); records without
    a version field are passed through unchanged (compatibility rule). -/
theorem C02_compat_fit (d : Desc) (vals extra : List RV) (version : RV)
    (h : vals.length = d.slotCount + Gen.RESERVED_FIELDS.length - 1) (he : extra ≠ []) :
    fitValues d (vals ++ extra ++ [version]) = vals ++ [version] := by
  have hx : 0 < extra.length := List.length_pos_iff.mpr he
  unfold fitValues
  rw [if_pos (by simp only [List.length_append, List.length_cons, List.length_nil]; omega),
    List.getLast?_concat, ← h, List.append_assoc, List.take_left' rfl]

theorem C02_compat_unversioned (d : Desc) (vals : List RV)
    (h : vals.length ≤ d.slotCount + Gen.RESERVED_FIELDS.length) : fitValues d vals = vals :=
  fitValues_id d vals h

/-- M2 — conforming streams an INDEPENDENT writer may produce are read: `Encodes v bs` is the msgpack format as a
    relation (any integer class wide enough for the value, any length class wide enough for the length, fixext for its
    exact sizes, float32 or float64 — not just the smallest class, which is all the library's own writer ever emits).
    Every such encoding of every value, to any nesting depth, followed by anything, is decoded to exactly that value
    and leaves what follows untouched. -/
theorem C02_any_conforming_encoding_is_read (v : MVal) (bs rest : Bytes) (he : Encodes v bs) :
    dec (depth v) (bs ++ rest) = .ok (v, rest) :=
  dec_encodes v bs (depth v) rest he (Nat.le_refl _)

/-- … as one document (`unpackb`), and as one frame of a stream: the reader's frame splitter hands the decoder exactly
    the conforming body, which decodes to the value. -/
theorem C02_conforming_frame_is_read (v : MVal) (bs rest : Bytes) (he : Encodes v bs) (hl : bs.length < 4294967296) :
    nextFrame (frameBytes bs ++ rest) = some (bs, rest) ∧ decode bs = .ok v :=
  ⟨nextFrame_frame _ _ hl, decode_encodes he⟩

/-- M3 — the library's writer conforms: what the packer emits for any well-formed value is one of the encodings the
    format allows (so M1 is the special case of M2 for the writer's own output). -/
theorem C02_writer_output_conforms (v : MVal) (hw : WF v) : Encodes v (enc v) :=
  encodes_enc v hw

/-- The format is unambiguous: no byte string is a conforming encoding of two different values. -/
theorem C02_encoding_unambiguous (v w : MVal) (bs : Bytes) (hv : Encodes v bs) (hw : Encodes w bs) : v = w :=
  Res.ok.inj ((decode_encodes hv).symm.trans (decode_encodes hw))

/-- M2 at the ENVELOPE layer. The payload of an extension value is itself a msgpack document, and an independent
    writer may encode it - and the payloads nested inside it, to any depth - with any admissible size classes.
    `SameDoc v v'` says `v'` is `v` with every extension payload replaced by SOME conforming encoding of the
    (recursively re-encoded) document the original payload holds. Such a document is unpacked to exactly the same
    value, for every registry and every fuel (the nesting is unchanged, so no more fuel is needed). -/
theorem C02_reencoded_payloads_same_value (reg : Registry) (v v' : MVal) (h : SameDoc v v') (f : Nat) :
    fromM reg f v' = fromM reg f v :=
  fromM_sameDoc reg h f

/-- ... and so is the whole frame: take what the library would write for an admissible object (`toM pv = m`), let an
    independent conforming writer re-encode it at every level (`SameDoc m m'`, `Encodes m' bs'`); the reader decodes
    the frame `bs'` to exactly the object, `rvOf pv` - the fuel the reader derives from the frame length suffices. -/
theorem C02_reencoded_frame_is_read (reg : Registry) (pv : PV) (m m' : MVal) (bs' : Bytes) (hok : PVOK reg pv)
    (hm : toM pv = some m) (h : SameDoc m m') (he : Encodes m' bs') :
    decodeFrame reg bs' = .ok (rvOf pv) := by
  unfold decodeFrame
  rw [decode_encodes he]
  have hfuel := fromM_fuel_irrelevant reg h bs' he (bs'.length + 2) (max (need pv) (bs'.length + 2))
    (by omega) (by omega)
  dsimp only
  rw [hfuel, fromM_sameDoc reg h]
  exact fromM_toM reg pv m _ hok hm (Nat.le_max_left _ _)

/-- FIELD VALUES on the wire: a typed list that received plain elements in place is written with the published
    encoding of the converted elements (the same packed value as the list that held them from the start); the
    premise that `typedlist._pack` converts before packing is the regenerated source fact. -/
theorem C02_inplace_elements_encoding {R : Type} (conv : R → Option FlowRecord.FieldPack.TVal)
    (k : FlowRecord.FieldPack.Kind) (xs : List (FlowRecord.FieldPack.TVal ⊕ R)) (ts : List FlowRecord.FieldPack.TVal)
    (h : FlowRecord.FieldPack.heldValues conv xs = some ts) :
    (FlowRecord.FieldPack.packHeld conv k xs).map FlowRecord.Wire.PV.seq
      = FlowRecord.FieldPack.packT (.list k) (.list ts) :=
  FlowRecord.FieldPack.packHeld_list conv k xs ts h

-- non-vacuity: non-minimal encodings the packer never emits are conforming (5 as uint16; "a" as str32; [nil] as array16)
example : Encodes (.int 5) (0xcd :: beEnc 2 5) := IntEnc.u16 5 (by omega)
example : Encodes (.int (-1)) (0xd3 :: beEnc 8 (twos 8 (-1))) := IntEnc.i64 (-1) (by omega) (by omega)
example : Encodes (.str [97]) ((0xdb :: beEnc 4 1) ++ [97]) := ⟨_, StrHead.s32 1 (by omega), rfl⟩
example : Encodes (.arr [.nil]) ((0xdc :: beEnc 2 1) ++ [0xc0]) :=
  ⟨_, _, ArrHead.a16 1 (by omega), ⟨[0xc0], [], rfl, rfl, rfl⟩, rfl⟩
example : decode (0xcd :: beEnc 2 5) = .ok (.int 5) := decode_encodes (IntEnc.u16 5 (by omega))

-- non-vacuity of the envelope-layer theorems: the payload document [5, nil], which the library writes as 92 05 c0, is
-- re-encoded with an array16 head and a uint16 integer (dc 00 02 cd 00 05 c0) - the two extension values are `SameDoc`
example : SameDoc (.ext 14 (enc (.arr [.int 5, .nil]))) (.ext 14 ((0xdc :: beEnc 2 2) ++ ((0xcd :: beEnc 2 5) ++ [0xc0]))) :=
  .ext 14 (d := .arr [.int 5, .nil]) (d' := .arr [.int 5, .nil])
    (decode_enc _ (by simp [WF, WFList]))
    (.arr (.cons (.int 5) (.cons .nil .nil)))
    ⟨_, _, ArrHead.a16 2 (by omega), ⟨_, _, IntEnc.u16 5 (by omega), ⟨[0xc0], [], rfl, rfl, rfl⟩, rfl⟩, rfl⟩
