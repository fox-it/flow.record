import FlowRecordProofs.Lemmas.PackIgnore
import FlowRecordProofs.Lemmas.Writers
/-!
C17 — writers lose nothing: close, split and rotation keep every record once.

`Life` (`FlowRecord/Model/Writers.lean`) is the generic writer lifecycle machine; per adapter it is instantiated by
`Flags` whose critical entries are
extracted from the source (`Gen.avroCloseFlushes`, `Gen.sqliteCloseFlushes`, `Gen.streamCloseWritesHeader`,
`Gen.streamFlushWritesHeader`, `Gen.avroFlushCreatesWriter`, `Gen.exitFlushesThenCloses`, `Gen.splitRotateTest`,
`Gen.rotateNeverOverwrites`). `disk` is what has been handed to the file object: that CPython/the OS write a file's own
buffer out on `close()` is not modelled (named in the harness as trusted); `__del__`-time closing is outside the model.
-/
open FlowRecord FlowRecord.Writers

/-- Closed ⇒ complete, for every adapter whose `close` flushes its own buffer (or that has none): for every history
    `pre ++ [cl] ++ suf` where `pre` holds only writes and flushes, `cl` is `close` or leaving a with-block and `suf` is
    anything at all (a second close, more writes, …), the output holds exactly the records written before `cl`, once
    each, in order; nothing stays in a buffer. For an adapter whose header-only flush fixes the schema (Avro) the
    history must not flush before the first write. -/
theorem C17_closed_complete {R : Type} (F : Flags) (hF : F.closeFlushes = true ∨ F.writeBuffers = false)
    (pre : List (Op R)) (cl : Op R) (suf : List (Op R))
    (hpre : ∀ op ∈ pre, isClosing op = false) (hcl : isClosing cl = true)
    (hP : F.headerOnlyFlushPoisons = false ∨ flushBeforeFirstWrite pre = false) :
    (run F Life.init (pre ++ cl :: suf)).disk = (writesIn pre).map Stored.full ∧
    (run F Life.init (pre ++ cl :: suf)).buffer = [] ∧
    (run F Life.init (pre ++ cl :: suf)).isOpen = false := by
  obtain ⟨h1, e1⟩ := healthy_run (healthy_init F) hpre (hP.imp_right .inr)
  have h2 := healthy_closing h1 hcl hF
  rw [e1] at h2
  rwa [run_append, run_cons, run_closed F suf _ h2.2.2]

/-- Refused writes lose nothing. `Op.bad` is a write the adapter refuses (SQLite: an integer outside 64 bits; stream:
    text that cannot be encoded): it raises, stores nothing, and leaves behind at most the header and - when the record
    type was new - a commit of what was pending. `C17_closed_complete` quantifies over ALL histories, these included;
    spelled out: whatever refused writes are interleaved, after the closing call the output holds exactly the records of
    the writes that were NOT refused, once each, in order. -/
theorem C17_refused_writes_lose_nothing {R : Type} :
    ∀ F ∈ [streamFlags, plainFlags, sqliteFlags], ∀ (pre : List (Op R)) (cl : Op R) (suf : List (Op R)),
      (∀ op ∈ pre, isClosing op = false) → isClosing cl = true →
      (run F Life.init (pre ++ cl :: suf)).disk = (writesIn pre).map Stored.full ∧
      writesIn (pre.filter (fun op => match op with | .bad _ => false | _ => true)) = writesIn pre := by
  intro F hFm pre cl suf hpre hcl
  have hflags := adapters_close_flush F (List.mem_append_left [avroFlags] hFm)
  refine ⟨(C17_closed_complete F hflags.1 pre cl suf hpre hcl (Or.inl hflags.2)).1, ?_⟩
  clear hpre
  induction pre with
  | nil => rfl
  | cons op pre ih => cases op <;> simp [writesIn, ih]

/-- … instantiated: binary stream (plain or compressed), JSON lines, CSV, line, text and SQLite writers — every
    history, no side condition. (The flags are the extracted ones; if `close` stops flushing in /repo this breaks.) -/
theorem C17_closed_complete_adapters {R : Type} :
    ∀ F ∈ [streamFlags, plainFlags, sqliteFlags], ∀ (pre : List (Op R)) (cl : Op R) (suf : List (Op R)),
      (∀ op ∈ pre, isClosing op = false) → isClosing cl = true →
      (run F Life.init (pre ++ cl :: suf)).disk = (writesIn pre).map Stored.full ∧
      (run F Life.init (pre ++ cl :: suf)).buffer = [] := by
  intro F hFm pre cl suf hpre hcl
  have hflags := adapters_close_flush F (List.mem_append_left [avroFlags] hFm)
  have h := C17_closed_complete F hflags.1 pre cl suf hpre hcl (Or.inl hflags.2)
  exact ⟨h.1, h.2.1⟩

/-- Avro at full strength: whatever the history — also one that flushes before its first write — after a closing
    call the container holds exactly the records written before it, once each, in order, and nothing stays buffered.
    (Holds since the two `fix:` commits: `close` flushes the pending block — `Gen.avroCloseFlushes` — and `flush`
    before the first record no longer creates a placeholder container — `Gen.avroFlushCreatesWriter = false`; on the
    pinned revision both `[write, close]` and `[flush, write, write, close]` were counterexamples.) -/
theorem C17_closed_complete_avro {R : Type} (pre : List (Op R)) (cl : Op R) (suf : List (Op R))
    (hpre : ∀ op ∈ pre, isClosing op = false) (hcl : isClosing cl = true) :
    (run avroFlags Life.init (pre ++ cl :: suf)).disk = (writesIn pre).map Stored.full ∧
    (run avroFlags Life.init (pre ++ cl :: suf)).buffer = [] := by
  have hflags := adapters_close_flush avroFlags (by simp)
  obtain ⟨h1, h2, -⟩ := C17_closed_complete avroFlags hflags.1 pre cl suf hpre hcl (.inl hflags.2)
  exact ⟨h1, h2⟩

/-- Empty outputs are valid: JSON, Avro and SQLite writers opened and closed without records — by `close`, by leaving
    a with-block, or by `flush` then `close` — leave an output their reader accepts, holding no record. -/
theorem C17_empty_valid :
    ∀ F ∈ [plainFlags, avroFlags, sqliteFlags], ∀ h ∈ [[Op.close], [Op.exit], [Op.flush, Op.close]],
      (run F (Life.init : Life Unit) h).valid F = true ∧ (run F (Life.init : Life Unit) h).disk = [] ∧
      (run F (Life.init : Life Unit) h).buffer = [] ∧ (run F (Life.init : Life Unit) h).isOpen = false := by
  decide

/-- The same for the binary stream writer, at full strength. -/
def C17_empty_valid_stream_statement : Prop :=
  ∀ h ∈ [[Op.close], [Op.exit], [Op.flush, Op.close]],
    (run streamFlags (Life.init : Life Unit) h).valid streamFlags = true

/-- False of model and code (known finding, pinned by the repo's own test `test_recordstream_header`): a stream writer
    closed without flush and without records never writes the header; the file is empty (or a bare gzip member) and
    `RecordReader` refuses it. -/
theorem C17_empty_valid_stream_counterexample : ¬ C17_empty_valid_stream_statement := by
  intro h
  have := h [Op.close] (by simp)
  revert this
  decide

/-- What holds for the stream writer: `[exit]` and `[flush, close]` leave a valid empty stream, and more generally the
    output is valid at the end of every history in which a write, a flush or a with-exit reached the open writer. -/
theorem C17_empty_valid_stream_partial {R : Type} :
    (∀ h ∈ [[Op.exit], [Op.flush, Op.close]],
      (run streamFlags (Life.init : Life Unit) h).valid streamFlags = true ∧
      (run streamFlags (Life.init : Life Unit) h).disk = []) ∧
    (∀ (pre : List (Op R)) (op : Op R) (suf : List (Op R)), (∀ o ∈ pre, isClosing o = false) → op ≠ Op.close →
      (run streamFlags Life.init (pre ++ op :: suf)).valid streamFlags = true) := by
  refine ⟨by decide, ?_⟩
  intro pre op suf hpre hop
  obtain ⟨⟨ho, hc, -⟩, -⟩ := healthy_run (healthy_init streamFlags) hpre (Or.inl (by decide))
  rw [run_append, run_cons]
  simp only [Life.valid, Bool.or_eq_true]
  exact Or.inl (run_invariant streamFlags (·.headerOnDisk = true) suf (fun _ o _ => header_mono _ o) _
    (header_after streamFlags (by decide) (by decide) ho hc hop))

/-- Split: every part holds at most `limit` records — for every history of calls on the split writer, every
    `limit ≥ 1`, every adapter. -/
theorem C17_split_bounded {R : Type} (F : Flags) (limit : Nat) (hl : 1 ≤ limit) (ops : List (Op R)) :
    ∀ p ∈ (splitRun F (Split.init limit) ops).parts, (p.2.disk ++ p.2.buffer).length ≤ limit := by
  have h := splitRun_invariant F (SplitBounded limit) ops (fun _ op _ => splitBounded_step F op) _
    (splitBounded_init hl)
  intro p hp
  rcases List.mem_append.mp hp with hp | hp
  · exact h.done p hp
  · cases hcur : (splitRun F (Split.init limit) ops).cur with
    | none => simp [hcur] at hp
    | some q =>
      obtain rfl : p = q := by simpa [hcur] using hp
      have := h.cur p hcur
      simp only [diskAndBuffer] at this
      omega

/-- Split: part names are pairwise distinct — the `k`-th part is named with index `k`, and the index can be read back
    from the name for every suffix length (`rjust` pads, never truncates), every base name. -/
theorem C17_split_names_distinct {R : Type} (F : Flags) (limit suffixLen : Nat) (base : Name) (ops : List (Op R)) :
    let ps := (splitRun F (Split.init limit) ops).parts
    ∀ i j (hi : i < ps.length) (hj : j < ps.length),
      partName base suffixLen (ps[i]).1 = partName base suffixLen (ps[j]).1 → i = j := by
  intro ps i j hi hj h
  have hidx : ps.map (·.1) = List.range ps.length :=
    (splitRun_invariant F SplitIndexed ops (fun _ op _ => splitIndexed_step F op) _ (splitIndexed_init limit)).index
  have hget : ∀ k (hk : k < ps.length), (ps[k]).1 = k := fun k hk => by
    simpa [hk] using congrArg (·[k]?) hidx
  have := partName_injective h
  rw [hget i hi, hget j hj] at this
  exact this

/-- Split: the record-wise concatenation of the parts, in order, is exactly the sequence written — for every number of
    records, every limit, closed by `close` or by leaving a with-block (every adapter whose `close` flushes). -/
theorem C17_split_concat {R : Type} (F : Flags) (hF : F.closeFlushes = true ∨ F.writeBuffers = false)
    (limit : Nat) (rs : List R) (cl : Op R) (hcl : isClosing cl = true) :
    (splitRun F (Split.init limit) (rs.map Op.write ++ [cl])).cur = none ∧
    (splitRun F (Split.init limit) (rs.map Op.write ++ [cl])).parts.flatMap (fun p => p.2.disk) = rs.map Stored.full := by
  have hw : writesIn (rs.map Op.write) = rs := by induction rs <;> simp_all [writesIn]
  simpa [hw] using split_closed_complete hF limit (rs.map Op.write) (by simp [isClosing]) hcl (.inr (by simp))

/-- Split, raw bytes (at the level of frames; that frames are self-delimiting is C01/C02's subject): the concatenation
    of the stream parts — each starting with its own header and re-emitting the descriptors it uses — is read back
    as the concatenation of their records, whatever descriptors the parts share. -/
theorem C17_split_raw_concat {D R : Type} [DecidableEq D] (part : List (D × R)) (parts : List (List (D × R))) :
    readStream ((part :: parts).flatMap emitPart) = some (part :: parts).flatten := by
  simp only [List.flatMap_cons, emitPart, List.cons_append, readStream, List.flatten_cons]
  exact read_emitRecords (read_parts parts) part (List.nil_subset [])

/-- "Each part is readable on its own" at full strength for stream parts: after N writes and `close()` every part
    file is a valid stream. -/
def C17_split_parts_readable_statement : Prop :=
  ∀ (limit : Nat) (rs : List Unit), 1 ≤ limit →
    ∀ p ∈ (splitRun streamFlags (Split.init limit) (rs.map Op.write ++ [Op.close])).parts, p.2.valid streamFlags = true

/-- False of model and code: the split writer opens the next part eagerly, so when N is a multiple of the limit (or 0)
    the trailing part is closed by `close()` without a flush — the stream finding above: an empty file. -/
theorem C17_split_parts_readable_counterexample : ¬ C17_split_parts_readable_statement := by
  intro h
  have := h 1 [()] (Nat.le_refl 1) (1, (doClose streamFlags Life.init).1) (by decide +kernel)
  revert this
  decide

/-- What holds: leaving a with-block (`exit` = flush + close) instead of a bare `close()` makes every part a valid
    stream, for every N and every limit. -/
theorem C17_split_parts_readable_partial {R : Type} (limit : Nat) (rs : List R) :
    ∀ p ∈ (splitRun streamFlags (Split.init limit) (rs.map Op.write ++ [Op.exit])).parts,
      p.2.valid streamFlags = true := by
  have h := splitRun_invariant streamFlags SplitHeaders (rs.map Op.write ++ [Op.exit])
    (fun _ _ hop => splitHeaders_step streamFlags (by decide) (by rintro rfl; simp at hop)) _
    (splitHeaders_init limit)
  have hc : (splitRun streamFlags (Split.init limit) (rs.map Op.write ++ [Op.exit])).cur = none := by
    rw [splitRun_append]
    exact splitStep_closing _ _ rfl
  intro p hp
  simp only [Split.parts, hc, List.append_nil] at hp
  simp [Life.valid, h.done p hp]

/-- Template archiving. Start from any directory whose file names are distinct; write any sequence of records, each
    with the path its template formats to and the rotation stamp the clock gives at that moment. Then the run never
    fails to find a free rotation name and at the end: the contents of the files that existed before are all still
    there, unchanged and in the same directory order (renamed, never overwritten or appended to); the files the
    writer created hold, in creation order, exactly the records written, once each, each in a file created for the
    path its template names; file names stay distinct. -/
theorem C17_template {R : Type} (fs0 : FS R) (hnd : (names fs0).Nodup) (hpre : ∀ f ∈ fs0, f.origin = none)
    (writes : List (Name × Name × R)) :
    ∃ s', tmplRun { currentPath := none, fs := fs0 } writes = some s' ∧
      preOf (tagged s'.fs) = fs0.map (·.content) ∧
      recsOf (tagged s'.fs) = writes.map (fun w => (w.1, w.2.2)) ∧
      (names s'.fs).Nodup := by
  obtain ⟨s', hrun, hinv'⟩ := tmplRun_inv writes (tmplInv_init hnd hpre)
  exact ⟨s', hrun, hinv'.pre_kept, by simpa using hinv'.recs, hinv'.nodup⟩

/-- "Puts each record in the file its template names", with the name spelled out: the body of
    `PathTemplateWriter.write` is the frozen one (`ts = record._generated or now`, the template formatted with the record
    and that `ts`, nothing else), so for every template `fmt`, every sequence of records and clock readings, the files
    the writer created hold exactly the records written, each under `fmt record ts`; and for a record that carries a
    `_generated` that name does not depend on the clock (nor on any process setting: none is read). -/
theorem C17_template_names_come_from_the_record {R T : Type} (fmt : R → T → Name) (gen : R → Option T)
    (fs0 : FS R) (hnd : (names fs0).Nodup) (hpre : ∀ f ∈ fs0, f.origin = none) (ws : List (R × T × Name)) :
    Gen.templateWriteBody = templateWriteFrozen ∧
    (∃ s', tmplRunRecords fmt gen { currentPath := none, fs := fs0 } ws = some s' ∧
      preOf (tagged s'.fs) = fs0.map (·.content) ∧
      recsOf (tagged s'.fs) = ws.map (fun w => (fmt w.1 (tmplTs (gen w.1) w.2.1), w.1)) ∧
      (names s'.fs).Nodup) ∧
    (∀ (r : R) (g now now' : T), gen r = some g →
      fmt r (tmplTs (gen r) now) = fmt r g ∧ fmt r (tmplTs (gen r) now) = fmt r (tmplTs (gen r) now')) := by
  refine ⟨template_write_is_frozen, ?_, ?_⟩
  · obtain ⟨s', h1, h2, h3, h4⟩ := C17_template fs0 hnd hpre
      (ws.map fun w => (fmt w.1 (tmplTs (gen w.1) w.2.1), w.2.2, w.1))
    refine ⟨s', h1, h2, ?_, h4⟩
    rw [h3, List.map_map]
    rfl
  · intro r g now now' hg
    simp [tmplTs, hg]

/-- The template writer closed in the middle of its life and used again - any sequence of `write` and `close` calls, any
    directory to start from: the run never fails to find a free rotation name; a `write` is refused only right after a
    `close`, for the path that was current (and then changes nothing); and at the end the contents of the files that
    existed before are all still there unchanged, while the files the writer created hold, in order, exactly the
    records whose `write` returned - a later refusal or reopening never costs a record written before. -/
theorem C17_template_closed_and_used_again {R : Type} (fs0 : FS R) (hnd : (names fs0).Nodup)
    (hpre : ∀ f ∈ fs0, f.origin = none) (ops : List (TOp R)) :
    ∃ s' oks, tmplRunC { t := { currentPath := none, fs := fs0 }, closed := false } ops = some (s', oks) ∧
      oks.length = ops.length ∧
      preOf (tagged s'.t.fs) = fs0.map (·.content) ∧
      recsOf (tagged s'.t.fs) = acceptedWrites ops oks ∧
      (names s'.t.fs).Nodup := by
  obtain ⟨s', oks, hrun, hl, hinv'⟩ := tmplRunC_inv ops { t := { currentPath := none, fs := fs0 }, closed := false } _ _
    (tmplInv_init hnd hpre)
  exact ⟨s', oks, hrun, hl, hinv'.pre_kept, by simpa using hinv'.recs, hinv'.nodup⟩

/-- The rotation target is free: after `rotate_existing_file` nothing is named like the path about to be opened, so
    opening it for writing truncates nothing. -/
theorem C17_template_target_free {R : Type} (fs : FS R) (hnd : (names fs).Nodup) (path stamp : Name) :
    ∃ fs', rotateExisting fs path stamp = some fs' ∧ fs'.has path = false ∧ tagged fs' = tagged fs := by
  obtain ⟨fs', h1, h2, _, h4⟩ := rotate_spec path stamp hnd
  exact ⟨fs', h1, Bool.eq_false_iff.mpr (mt (has_iff fs' path).mp h4), h2⟩

/-- Why the `-<n>` sequence is needed (the behaviour of the pinned revision, DESIGN finding #15, repaired in /repo):
    without it, a pre-existing `A` and the path sequence A, B, A inside one second loses the pre-existing content — the
    second rotation renames onto the first rotated copy. -/
theorem C17_template_rotation_overwrites_without_sequence :
    let fs0 : FS Nat := [{ name := "A.records.gz".toList, origin := none, content := [7] }]
    let stamp := "20240101T000000".toList
    (rotateExistingWith false fs0 "A.records.gz".toList stamp).bind (fun fs1 =>
      rotateExistingWith false (fs1 ++ [{ name := "A.records.gz".toList, origin := some "A.records.gz".toList, content := [1] }])
        "A.records.gz".toList stamp) = some [{ name := "A.20240101T000000.records.gz".toList,
                                                origin := some "A.records.gz".toList, content := [1] }] := by
  repeat rw [String.toList_ofList]
  decide +kernel

/-- THE COMPARISON-IGNORE CONFIGURATION CONCERNS == AND hash() ONLY: whatever configuration is in force
    (FLOW_RECORD_IGNORE, `set_ignored_fields_for_comparison`, a `with ignore_fields_for_comparison(...)` block around a
    de-duplicating producer), every writer stores complete records: the packer asks `Record._pack` to leave out nothing.
    Premises: the regenerated source facts (`Gen.recordPackReadsGlobalIgnore`, `recordPackExcludedDefault`,
    `packerPassesExcluded`). -/
theorem C17_ignore_configuration_never_reaches_the_writer (globalIg : List (List Nat))
    (names : List (List Nat)) {α : Type} (vals : List α) (h : names.length = vals.length) :
    FlowRecord.Equality.packerExcluded globalIg = [] ∧
    FlowRecord.Equality.keep (FlowRecord.Equality.packerExcluded globalIg) names vals = vals :=
  FlowRecord.Equality.packer_keeps_all globalIg names vals h

namespace C17_nonvacuous
example : tmplTs (some 5) 9 = 5 ∧ tmplTs (none : Option Nat) 9 = 9 := by decide
example : (tmplRunC ({ t := { currentPath := none, fs := [] }, closed := false } : TmplC Nat)
    [.write "A".toList "s".toList 1, .close, .write "A".toList "s".toList 2, .write "B".toList "s".toList 3]).map (·.2) =
    some [true, true, false, true] := by
  repeat rw [String.toList_ofList]
  decide
example : (run avroFlags (Life.init : Life Nat) [.write 1, .write 2, .close, .close]).disk = [.full 1, .full 2] := by decide
example : (run avroFlags (Life.init : Life Nat) [.write 1, .write 2]).buffer = [.full 1, .full 2] := by decide
example : outcomes avroFlags (Life.init : Life Nat) [.write 1, .exit, .exit, .write 2] = [.ok, .ok, .ok, .raised] := by
  decide
example : ((splitRun streamFlags (Split.init 2 : Split Nat) ([1, 2, 3, 4, 5].map Op.write ++ [Op.close])).parts.map
    (fun p => (p.1, p.2.disk))) = [(0, [.full 1, .full 2]), (1, [.full 3, .full 4]), (2, [.full 5])] := by decide +kernel
example : partName "out.records.gz".toList 2 7 = "out.records.07.gz".toList := by
  repeat rw [String.toList_ofList]
  decide +kernel
example : partName "out".toList 2 123 = "out.123".toList := by
  repeat rw [String.toList_ofList]
  decide
example : rotCandidate "A.records.gz".toList "20240101T000000".toList 2 = "A.20240101T000000-2.records.gz".toList := by
  repeat rw [String.toList_ofList]
  decide +kernel
example : (tmplRun ({ currentPath := none, fs := [{ name := "A".toList, origin := none, content := [7] }] } : Tmpl Nat)
    [("A".toList, "S".toList, 1), ("B".toList, "S".toList, 2), ("A".toList, "S".toList, 3)]).map
      (fun s => s.fs.map (fun f => (String.ofList f.name, f.content))) =
    some [("A.S.", [7]), ("A.S-1.", [1]), ("B", [2]), ("A", [3])] := by
  repeat rw [String.toList_ofList]
  decide +kernel
-- refused writes: two good records around a refused one, batch still pending, then close
example : (run sqliteFlags (Life.init : Life Nat) [.write 0, .bad false, .write 2, .close]).disk = [.full 0, .full 2] := by
  decide
example : (outcomes sqliteFlags (Life.init : Life Nat) [.write 0, .bad true, .close, .bad false]) =
    [.ok, .raised, .ok, .raised] := by decide
end C17_nonvacuous
