import FlowRecordProofs.Lemmas.Equality
import FlowRecordProofs.Lemmas.FieldPack
/-!
C12 — record equality and hashing obey the value-object contract.
Everything is stated for EVERY primitive equality `E` / hash `H` that satisfy CPython's contract (`HashLaws`: a
hypothesis structure), every way of combining hashes `C`, every digest function `h` behind the descriptor identifier,
every ignored-field set `ig` and every tree of packed values (plain, nested, grouped).
-/
open FlowRecord FlowRecord.Descriptor FlowRecord.Equality

/-- EQUALITY, exactly: two records are `==` iff their identifiers `(name, hash)` are equal and their packed values
    on the non-ignored slots are pairwise `==`. -/
theorem C12_eq_iff {P : Type} (E : P → P → Bool) (h : Str → Nat) (ig : List Str) (da db : Desc) (va vb : List (Val P)) :
    recEq E h ig (.record da va) (.record db vb) = true ↔
      identifier h da = identifier h db ∧
      Pairwise2 (fun x y => veq E h x y = true) (keep ig (slots da) (norms ig va)) (keep ig (slots db) (norms ig vb)) := by
  simp only [recEq, norm, veq, Bool.and_eq_true, beq_iff_eq, veqs_iff]

/-- … for grouped records: same group name and members pairwise `==` (each member compared as a record, with the
    same ignored set). A grouped record never equals a plain record. -/
theorem C12_eq_iff_grouped {P : Type} (E : P → P → Bool) (h : Str → Nat) (ig : List Str) (na nb : Str)
    (ma mb : List (Val P)) (d : Desc) (vs : List (Val P)) :
    (recEq E h ig (.grouped na ma) (.grouped nb mb) = true ↔
      na = nb ∧ Pairwise2 (fun x y => veq E h x y = true) (norms ig ma) (norms ig mb)) ∧
    recEq E h ig (.grouped na ma) (.record d vs) = false ∧ recEq E h ig (.record d vs) (.grouped na ma) = false := by
  refine ⟨?_, rfl, rfl⟩
  simp only [recEq, norm, veq, Bool.and_eq_true, beq_iff_eq, veqs_iff]

/-- REFLEXIVE: every record (plain, nested, grouped, any field values) equals itself, under every ignored set. -/
theorem C12_eq_refl {P : Type} (E : P → P → Bool) (H : P → Option Nat) (L : HashLaws E H) (h : Str → Nat)
    (ig : List Str) (a : Val P) : recEq E h ig a a = true :=
  veq_refl E h L.refl (norm ig a)

/-- SYMMETRIC: `a == b` and `b == a` always agree. -/
theorem C12_eq_symm {P : Type} (E : P → P → Bool) (H : P → Option Nat) (L : HashLaws E H) (h : Str → Nat)
    (ig : List Str) (a b : Val P) : recEq E h ig a b = recEq E h ig b a :=
  veq_symm E h L.symm (norm ig a) (norm ig b)

/-- EQUAL ⇒ EQUAL HASH, under the same ignored set (the code passes the one global to both). -/
theorem C12_hash_respects_eq {P : Type} (E : P → P → Bool) (H : P → Option Nat) (L : HashLaws E H) (C : Combine)
    (h : Str → Nat) (ig : List Str) (a b : Val P) (heq : recEq E h ig a b = true) :
    hashRec H C h ig a = hashRec H C h ig b :=
  veq_hash E H C h L.hash_eq (norm ig a) (norm ig b) heq

/-- HASH IS TOTAL: if every primitive leaf (and dict key) is hashable — str, int, float, bytes, bool, None,
    datetime are — then `hash(record)` never raises, however deep lists, dicts, nested and grouped records nest. -/
theorem C12_hash_total {P : Type} (H : P → Option Nat) (C : Combine) (h : Str → Nat) (ig : List Str) (a : Val P)
    (hl : hashable H a = true) : (hashRec H C h ig a).isSome = true :=
  (vhash_isSome_eq H C h (norm ig a)).trans (hashable_norm H ig a hl)

/-- "Same descriptor" in the code is "same identifier". Where the digest does not collide on the pair, the two
    coincide: equal records have the same descriptor. -/
theorem C12_eq_same_descriptor {P : Type} (E : P → P → Bool) (h : Str → Nat) (ig : List Str) (da db : Desc)
    (va vb : List (Val P)) (hinj : identifier h da = identifier h db → da = db) :
    recEq E h ig (.record da va) (.record db vb) = true ↔
      da = db ∧ Pairwise2 (fun x y => veq E h x y = true) (keep ig (slots da) (norms ig va)) (keep ig (slots db) (norms ig vb)) :=
  (C12_eq_iff E h ig da db va vb).trans (and_congr_left' ⟨hinj, congrArg _⟩)

/-- Full-strength claim "equal records have the same descriptor" (no hypothesis on the digest). -/
def C12_eq_implies_same_descriptor_statement : Prop :=
  ∀ (h : Str → Nat) (da db : Desc) (va vb : List (Val Nat)),
    recEq (fun a b => a == b) h [] (.record da va) (.record db vb) = true → da = db

namespace C12_collision
/-- `t/x[(stringlist,a),(string,b)]` and `t/x[(string,a),(string,listb)]`: the digest input is an unseparated
    concatenation, so the two have the same identifier for EVERY digest function. -/
def d1 : Desc := ⟨cps "t/x", [(cps "stringlist", cps "a"), (cps "string", cps "b")]⟩
def d2 : Desc := ⟨cps "t/x", [(cps "string", cps "a"), (cps "string", cps "listb")]⟩
/-- all six slots unset (None = primitive 0) -/
def nones : List (Val Nat) := List.replicate 6 (.prim 0)
end C12_collision

namespace C12_nonvacuous
/-- `==` on `Nat` with the identity as hash is a model of `HashLaws`: the leaves of the colliding pair and of the
    examples at the end -/
theorem laws : HashLaws (fun (a b : Nat) => a == b) (fun a => some a) :=
  ⟨by simp, by intro a b; exact Bool.beq_comm, by intro a b h; simp at h; rw [h]⟩
end C12_nonvacuous

/-- The colliding pair, for EVERY digest function `h`: equal identifiers, different descriptors, and — with all
    fields unset — equal records with equal hashes. -/
theorem C12_collision_for_every_digest (h : Str → Nat) (C : Combine) :
    identifier h C12_collision.d1 = identifier h C12_collision.d2 ∧ C12_collision.d1 ≠ C12_collision.d2 ∧
    recEq (fun a b => a == b) h [] (.record C12_collision.d1 C12_collision.nones)
      (.record C12_collision.d2 C12_collision.nones) = true ∧
    hashRec (fun a => some a) C h [] (.record C12_collision.d1 C12_collision.nones) =
      hashRec (fun a => some a) C h [] (.record C12_collision.d2 C12_collision.nones) := by
  have hin : hashInput C12_collision.d1 = hashInput C12_collision.d2 := by decide +kernel
  have hid : identifier h C12_collision.d1 = identifier h C12_collision.d2 :=
    congrArg (fun s => (C12_collision.d1.name, h s)) hin
  -- both records keep all six slots, each unset (evaluated)
  have heq := (C12_eq_iff (fun a b => a == b) h [] C12_collision.d1 C12_collision.d2 C12_collision.nones
    C12_collision.nones).mpr ⟨hid, (veqs_iff _ h _ _).mp (veqs_refl _ h C12_nonvacuous.laws.refl C12_collision.nones)⟩
  exact ⟨hid, by decide +kernel, heq, C12_hash_respects_eq _ _ C12_nonvacuous.laws C h [] _ _ heq⟩

/-- Hence the full-strength claim is false of model and code (replayed on the real code by the harness). -/
theorem C12_eq_implies_same_descriptor_counterexample : ¬ C12_eq_implies_same_descriptor_statement := by
  intro hs
  have h := C12_collision_for_every_digest (fun s => s.length) ⟨fun _ => 0, fun _ => 0, fun _ => 0, id⟩
  exact h.2.1 (hs _ _ _ _ _ h.2.2.1)

/-- SCOPED OVERRIDE IS UNDONE: whatever the state before, whatever the override, whatever happens inside the scope
    (further overrides, nested scopes to any depth, comparisons, an exception), after the scope the global equals the
    global before — on normal exit and on exit by exception (the exit kind is passed on unchanged). -/
theorem C12_scope_restores (st : St) (s : List Str) (body : List Cmd) :
    (exec1 st (.scope s body)).1.glob = st.glob ∧
    (exec1 st (.scope s body)).2 = (execs { st with glob := s } body).2 :=
  ⟨rfl, rfl⟩

/-- The two functions `exec1` models are, in the current source, the ones it was written from: the setter rebinds the
    global to a fresh set (no in-place edit, no validation after the rebinding), the context manager saves, installs
    inside its `try`, restores in its `finally`. -/
theorem C12_scope_source_is_the_modelled_one :
    Gen.ignoreSetterBody = ignoreSetterFrozen ∧ Gen.ignoreScopeBody = ignoreScopeFrozen :=
  ⟨rfl, rfl⟩

/-- … inside the scope the override is in force: a comparison that is the first thing in the body reads `s`;
    and a comparison right after the scope reads the old global again. -/
theorem C12_scope_in_force (st : St) (s : List Str) (rest after : List Cmd) :
    (execs st (.scope s (.observe :: rest) :: after)).1.trace.take (st.trace.length + 1) = st.trace ++ [s] ∧
    (execs st [.scope s [], .observe]).1.trace = st.trace ++ [st.glob] := by
  refine ⟨?_, rfl⟩
  -- the first observation inside the scope appends `s`; everything later only appends
  have h : st.trace ++ [s] <+: (execs st (.scope s (.observe :: rest) :: after)).1.trace :=
    (execs_cons_trace { st with glob := s } .observe rest).trans
      (execs_cons_trace st (.scope s (.observe :: rest)) after)
  rw [List.prefix_iff_eq_take] at h
  simpa using h.symm

/-! ### field values and packed values
`Record.__eq__` compares PACKED values (`_pack()` of every field). That this is the comparison of the field values
themselves rests on the field layer being injective: -/

/-- two well-formed typed values of one kind with the same packed form are the same value (so records that differ
    in a field differ in their packed values, and `C12_eq_iff` speaks about the field values). From
    `unpackT_packT`: the packed form determines the value. -/
theorem C12_field_pack_injective (norm : Nat → FlowRecord.FieldPack.Str → FlowRecord.FieldPack.Str)
    (k : FlowRecord.FieldPack.Kind) (a b : FlowRecord.FieldPack.TVal) (p : FlowRecord.Wire.PV)
    (ha : FlowRecord.FieldPack.WFT norm k a) (hb : FlowRecord.FieldPack.WFT norm k b)
    (hpa : FlowRecord.FieldPack.packT k a = some p) (hpb : FlowRecord.FieldPack.packT k b = some p) : a = b :=
  Option.some.inj ((FieldPack.unpackT_packT norm k a p ha hpa).symm.trans (FieldPack.unpackT_packT norm k b p hb hpb))

/-- Recorded finding (ip family): the well-formedness hypothesis is needed - 1.2.3.4 and ::102:304 have the same
    packed form, so records holding them compare equal. An IPv4-mapped IPv6 address and the IPv4 address it embeds
    do NOT: they pack to different integers. -/
theorem C12_ip_family_counterexample :
    FlowRecord.FieldPack.packT .ip (.ip 4 16909060) = FlowRecord.FieldPack.packT .ip (.ip 6 16909060) ∧
    FlowRecord.FieldPack.packT .ip (.ip 6 281470849515521) ≠ FlowRecord.FieldPack.packT .ip (.ip 4 167772161) :=
  ⟨rfl, nofun⟩

/-- IN-PLACE EDITS: a typed list that received plain elements after the record was built (`rec.paths.append("x")`)
    packs - and therefore compares and hashes, `C12_eq_iff` - exactly like the list that held the converted elements
    from the start. That `typedlist._pack` converts before packing is the regenerated
    `Gen.typedlistPackConvertsRaw`, evaluated in the proof of `packHeld_list`. -/
theorem C12_inplace_elements_same_pack {R : Type} (conv : R → Option FlowRecord.FieldPack.TVal)
    (k : FlowRecord.FieldPack.Kind) (xs : List (FlowRecord.FieldPack.TVal ⊕ R)) (ts : List FlowRecord.FieldPack.TVal)
    (h : FlowRecord.FieldPack.heldValues conv xs = some ts) :
    (FlowRecord.FieldPack.packHeld conv k xs).map FlowRecord.Wire.PV.seq
      = FlowRecord.FieldPack.packT (.list k) (.list ts) :=
  FieldPack.packHeld_list conv k xs ts h

-- Non-vacuity (the model `laws` of HashLaws stands above, before its first use): concrete records / programs on both
-- sides of each theorem.
namespace C12_nonvacuous
def comb : Combine := ⟨fun l => l.foldl (fun a b => 31 * a + b + 1) 7, fun l => l.foldl (· + ·) 0, fun s => s.length, id⟩
def dA : Desc := ⟨cps "t/a", [(cps "string", cps "s"), (cps "command", cps "c")]⟩
def r1 : Val Nat := .record dA [.prim 5, .seq true [.seq true [.prim 1, .seq false [.prim 2, .prim 3]], .prim 0],
  .prim 9, .prim 9, .prim 7, .prim 1]
def r2 : Val Nat := .record dA [.prim 6, .seq true [.seq true [.prim 1, .seq false [.prim 2, .prim 3]], .prim 0],
  .prim 9, .prim 9, .prim 7, .prim 1]
example : recEq (fun a b => a == b) (fun _ => 1) [] r1 r2 = false := by decide +kernel
example : recEq (fun a b => a == b) (fun _ => 1) [cps "s"] r1 r2 = true := by decide +kernel
example : (hashRec (fun a => some a) comb (fun _ => 1) [cps "s"] r1).isSome = true := by decide +kernel
example : hashRec (fun a => some a) comb (fun _ => 1) [cps "s"] r1 = hashRec (fun a => some a) comb (fun _ => 1) [cps "s"] r2 := by decide +kernel
example : recEq (fun a b => a == b) (fun _ => 1) [] (.grouped (cps "g") [r1, r2]) (.grouped (cps "g") [r1, r2]) = true := by decide +kernel
-- a hash function that is partial on some leaf: the hypothesis of C12_hash_total is needed
example : hashRec (fun a => if a = 3 then none else some a) comb (fun _ => 1) [] r1 = none := by decide +kernel
-- nested scopes, an inner override and an exception: the global is restored, the exit kind is passed on
example : execs ⟨[cps "x"], []⟩ [.scope [cps "a"] [.observe, .scope [cps "b"] [.set [cps "c"], .observe, .raise], .observe], .observe]
    = (⟨[cps "x"], [[cps "a"], [cps "c"]]⟩, .raised) := by decide
example : execs ⟨[cps "x"], []⟩ [.scope [cps "a"] [.observe, .scope [cps "b"] [.set [cps "c"], .observe], .observe], .observe]
    = (⟨[cps "x"], [[cps "a"], [cps "c"], [cps "a"], [cps "x"]]⟩, .normal) := by decide
-- a path list holding one typed element and one plain text appended in place
example : FlowRecord.FieldPack.heldValues (R := List Nat) (fun t => some (.path 0 t))
    [.inl (.path 0 [47, 97]), .inr [47, 98]] = some [.path 0 [47, 97], .path 0 [47, 98]] := by rfl
end C12_nonvacuous
