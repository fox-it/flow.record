import FlowRecordProofs.Lemmas.Rdump
import FlowRecordProofs.Lemmas.RdumpUri
/-!
C16 — rdump output is the specified slice of the filtered input.
`pipeline` is `Model/Rdump.lean`; the order of the loop body, the islice stop rule, `record_stream`'s handlers, the
metadata rule of the timestamp expansion and the URI tables are the ones extracted from the current source. Domain:
selectors whose sub-expressions are defined on every readable record (total matchers); what `record_stream` does with a
selector that raises is stated separately (`C16_raising_selector_truncates_source`). KeyboardInterrupt is outside
(re-raised by design). `Rdump.project` and `Rdump.tsExpand` are rdump's own models of the field rewriter and of
`iter_timestamped_records`, over records with opaque values; C15 states the same two operations over its composition
model (`Compose.projectFields`, `Compose.tsExpand`) and no theorem relates the two.
-/
open FlowRecord FlowRecord.Readers FlowRecord.Rdump

/-- No source ends in, and the selector never raises, a KeyboardInterrupt. -/
def C16_NoInterrupt {V : Type} (sel : Option (Matcher (Rec V) ErrKind)) (srcs : List (Source (Rec V))) : Prop :=
  ∀ s ∈ srcs, (readSource sel s).err ≠ some .interrupt

/-- Inst: the loop body is override-source, override-classification, rewrite, emit — in this order; selection
    happens inside `record_stream`, i.e. before the slice; the stop of the slice is None when COUNT is 0/absent;
    `record_stream` continues with the next source after IOError and after any other Exception and re-raises only
    KeyboardInterrupt; the writer is closed in a `finally`; the expansion keeps the original's metadata; the
    timestamp descriptor, the rewriter's arguments and the pieces of the URI construction are the ones the model's
    functions transcribe. -/
theorem C16_inst_shape :
    Gen.rdumpLoopOrder = ["source", "classification", "rewrite", "emit"] ∧
    Gen.rdumpSelectsInsideStream = true ∧ Gen.rdumpStopNoneWhenCountFalsy = true ∧
    Gen.rdumpSliceArgs = "args.skip, islice_stop" ∧
    action .io = "next" ∧ action .other = "next" ∧ action .interrupt = "raise" ∧
    Gen.recordStreamPassesSelector = true ∧ Gen.recordStreamYieldsEveryRecord = true ∧
    Gen.recordStreamOpensInsideTry = true ∧ Gen.rdumpEmitExpandsThenWrites = true ∧
    Gen.rdumpListModeWritesNothing = true ∧ Gen.rdumpWriterClosedInFinally = true ∧
    Gen.rdumpCompiledUnlessNoCompile = true ∧ Gen.tsExpandKeepsMetadata = true ∧
    Gen.rewriterIdentityWhenNoOptions = true ∧ Gen.rewriterKeepsAllValues = true ∧
    Gen.rewriterFieldsInRequestedOrder = true ∧ Gen.rewriterExcludeKeepsOrder = true ∧
    Gen.rewriterKeepsName = true ∧ Gen.tsExpandNoDatetimeIsIdentity = true ∧
    Gen.tsRecordFields = [("datetime", "ts"), ("string", "ts_description")] ∧ Gen.tsLoopRebindsRecord = true ∧
    Gen.rdumpRewriterCondition = "fields or fields_to_exclude or args.exec_expression" ∧
    Gen.rdumpRewriterArgs = "fields, fields_to_exclude, args.exec_expression" ∧
    Gen.rdumpDefaultUri = "text://" ∧ Gen.rdumpModeOnlyWithoutWriter = true ∧
    Gen.rdumpQueryKeys = ["fields", "exclude", "format_spec"] ∧ Gen.rdumpQueryDropsEmpty = true ∧
    Gen.rdumpQueryAppendShape = "amp-only-or-question-plus-query" ∧
    Gen.rdumpSplitWrapNoScheme = "split://{uri}" ∧ Gen.rdumpSplitWrapScheme = "split+{uri}" ∧
    Gen.rdumpSplitQueryKeys = ["count", "suffix-length"] ∧ Gen.rdumpSplitRequiresWriter = true ∧
    Gen.rdumpSplitRebuild = "parsed.scheme + '://' + parsed.netloc + parsed.path + '?' + query" ∧
    Gen.rdumpWriterFieldsSource = "writer_fields" ∧ Gen.rdumpWriterFieldsKeepTs = true :=
  ⟨rfl, rfl, rfl, rfl, action_io, action_other, by decide, rfl, rfl, rfl, rfl, rfl, rfl, rfl, rfl, rfl, rfl, rfl, rfl, rfl,
   rfl, rfl, rfl, rfl, rfl, rfl, rfl, rfl, rfl, rfl, rfl, rfl, rfl, rfl, rfl, rfl, rfl⟩

/-- The csv and line writers select fields once more from the `fields` argument rdump hands them. With `-F` and
    `--multi-timestamp` that argument starts with the two fields of the timestamp expansion, so the writer-side
    selection keeps them: every name of `-F` is still selected, in order, after `ts, ts_description` (the defect
    recorded as C16-writer-projection-drops-ts, repaired by a `fix:` commit; without the flag the statement fails). -/
theorem C16_writer_fields_keep_ts (f : String) (hf : f.isEmpty = false) :
    writerFields true (some f) = some ("ts,ts_description," ++ f) ∧ writerFields false (some f) = some f ∧
    writerFields true none = none := by
  simp [writerFields, hf, show Gen.rdumpWriterFieldsKeepTs = true by decide]

/-- Per-source isolation, for every placement of failing sources and every selector (raising ones included):
    the stream is the concatenation, in source order, of what each source's own reader yields; a source that fails
    contributes what it yielded before failing and never stops a later one. -/
theorem C16_isolation {V : Type} (sel : Option (Matcher (Rec V) ErrKind)) (srcs : List (Source (Rec V)))
    (h : C16_NoInterrupt sel srcs) :
    recordStream sel srcs = ⟨srcs.flatMap (fun s => (readSource sel s).out), none⟩ :=
  recordStream_flat h

/-- ... in particular around any single source `s` (missing, truncated, garbage or good) placed anywhere. -/
theorem C16_isolation_placement {V : Type} (sel : Option (Matcher (Rec V) ErrKind))
    (before after : List (Source (Rec V))) (s : Source (Rec V))
    (h : C16_NoInterrupt sel (before ++ s :: after)) :
    (recordStream sel (before ++ s :: after)).out
      = (recordStream sel before).out ++ (readSource sel s).out ++ (recordStream sel after).out ∧
    (readSource sel ⟨[], some .io⟩).out = [] := by
  have hb : C16_NoInterrupt sel before := fun x hx => h x (by simp [hx])
  have ha : C16_NoInterrupt sel after := fun x hx => h x (by simp [hx])
  rw [C16_isolation sel _ h, C16_isolation sel _ hb, C16_isolation sel _ ha]
  exact ⟨by simp [List.flatMap_append], by rw [readSource_nil]⟩

/-- The slice law: `islice(stream, SKIP, (COUNT + SKIP) if COUNT else None)` is "drop SKIP, then keep COUNT",
    COUNT = 0 or absent meaning no limit (as the repository's tests pin); never more than COUNT records. -/
theorem C16_slice {α : Type} (xs : List α) (skip : Nat) (count : Option Nat) :
    islice xs skip (sliceStop skip count) = sliceSpec skip count xs ∧
    sliceSpec skip (some 0) xs = xs.drop skip ∧ sliceSpec skip none xs = xs.drop skip ∧
    (∀ c, c ≠ 0 → sliceSpec skip (some c) xs = (xs.drop skip).take c ∧ (sliceSpec skip (some c) xs).length ≤ c) := by
  refine ⟨islice_spec xs skip count, rfl, rfl, ?_⟩
  intro c hc
  cases c with
  | zero => exact absurd rfl hc
  | succ n => simp [sliceSpec, List.length_take, Nat.min_le_left]

/-- The property at full strength on its domain: for every option combination, every list of sources (failing
    ones at any position) and every selector that is defined on every readable record, what reaches the writer is —
    in order — the concatenated readable prefixes, filtered, minus the first SKIP, limited to COUNT, each record
    then overridden / projected (and expanded per timestamp if asked). Selection precedes the slice and the slice
    precedes projection. -/
theorem C16_pipeline_spec {V : Type} (strVal : String → V) (fm : V × V × V) (o : Opts V)
    (m : Matcher (Rec V) ErrKind) (p : Rec V → Bool) (srcs : List (Source (Rec V)))
    (hm : ∀ s ∈ srcs, ∀ r ∈ s.readable, m r = .ok (p r))
    (hni : ∀ s ∈ srcs, s.fails ≠ some .interrupt) :
    let kept := sliceSpec o.skip o.count ((srcs.flatMap (·.readable)).filter p)
    let out := pipeline strVal fm o (some m) srcs
    out.crash = none ∧ out.processed = kept.length ∧
    (o.list = false → out.written = kept.flatMap (fun r => emit strVal fm o (perRecord o r)) ∧ out.listed = []) ∧
    (o.list = true → out.written = [] ∧ out.listed = dedup (kept.map (fun r => (perRecord o r).desc))) := by
  simp only [pipeline_flat strVal fm o (noInterrupt_total hm hni), flatMap_readSource_total hm]
  cases o.list <;> simp

/-- No selector: the same with "filtered" = everything. -/
theorem C16_pipeline_spec_noselector {V : Type} (strVal : String → V) (fm : V × V × V) (o : Opts V)
    (srcs : List (Source (Rec V))) (hni : ∀ s ∈ srcs, s.fails ≠ some .interrupt) (hl : o.list = false) :
    (pipeline strVal fm o none srcs).written =
      (sliceSpec o.skip o.count (srcs.flatMap (·.readable))).flatMap (fun r => emit strVal fm o (perRecord o r)) := by
  simp [pipeline_flat strVal fm o (sel := none) hni, hl, readSource_none]

/-- With no options rdump is the identity on the readable records. -/
theorem C16_identity {V : Type} (strVal : String → V) (fm : V × V × V) (srcs : List (Source (Rec V)))
    (hni : ∀ s ∈ srcs, s.fails ≠ some .interrupt) :
    (pipeline strVal fm {} none srcs).written = srcs.flatMap (·.readable) ∧
    (pipeline strVal fm {} none srcs).crash = none := by
  rw [pipeline_flat strVal fm {} (sel := none) hni]
  exact ⟨by simp [sliceSpec, Rdump.emit, perRecord_eq, project_nil, readSource_none], rfl⟩

/-- What `record_stream` does with a selector that raises (outside the property's domain, stated so that it is
    on record): the source in which it raises contributes the matching records *before* the raising one — the rest
    of that source is dropped — and later sources are read normally. -/
theorem C16_raising_selector_truncates_source {V : Type} (m : Matcher (Rec V) ErrKind) (p : Rec V → Bool)
    (before after : List (Source (Rec V))) (pre post : List (Rec V)) (r : Rec V) (fails : Option ErrKind)
    (hb : ∀ s ∈ before ++ after, ∀ x ∈ s.readable, m x = .ok (p x))
    (hni : ∀ s ∈ before ++ after, s.fails ≠ some .interrupt)
    (hpre : ∀ x ∈ pre, m x = .ok (p x)) (hr : m r = .error .other) :
    (recordStream (some m) (before ++ ⟨pre ++ r :: post, fails⟩ :: after)).out
      = (before.flatMap (·.readable)).filter p ++ pre.filter p ++ (after.flatMap (·.readable)).filter p := by
  have hs : readSource (some m) ⟨pre ++ r :: post, fails⟩ = ⟨pre.filter p, some .other⟩ :=
    filterAfter_raise post fails hpre hr
  have hni' : C16_NoInterrupt (some m) (before ++ ⟨pre ++ r :: post, fails⟩ :: after) := fun s h => by
    rcases List.mem_cons.mp (List.perm_middle.mem_iff.mp h) with rfl | h
    · simp [hs]
    · exact noInterrupt_total hb hni s h
  obtain ⟨hb1, hb2⟩ := List.forall_mem_append.mp hb
  rw [C16_isolation (some m) _ hni']
  simp [List.flatMap_append, hs, flatMap_readSource_total hb1, flatMap_readSource_total hb2]

/-- The order of the stages matters, and it is the specified one: the selector sees the *unprojected* record (it may
    mention a field that `-X` removes) and the slice counts *matching* records. -/
theorem C16_order_matters :
    let r1 : Rec Nat := ⟨"t/a", [("varint", "n", 1), ("string", "s", 10)], 0, 0, 0⟩
    let r2 : Rec Nat := ⟨"t/a", [("varint", "n", 2), ("string", "s", 20)], 0, 0, 0⟩
    let m : Matcher (Rec Nat) ErrKind := fun r => .ok (r.fields.any (fun f => f.2.1 == "n" && f.2.2 == 2))
    let o : Opts Nat := { exclude := ["n"], count := some 1 }
    (pipeline (fun _ => 0) (0, 0, 0) o (some m) [⟨[r1, r2], none⟩]).written = [⟨"t/a", [("string", "s", 20)], 0, 0, 0⟩] ∧
    -- projecting first would make the selector reject everything; slicing first would keep r1 and reject it
    ([r1, r2].map (perRecord o)).filter (fun r => match m r with | .ok true => true | _ => false) = [] ∧
    (sliceSpec 0 (some 1) [r1, r2]).filter (fun r => match m r with | .ok true => true | _ => false) = [] := by
  decide +kernel

/-- The records handed to the writer do not depend on output mode, writer URI, split size or `-n`'s presentation
    side: `run` computes them from the options, the selector and the sources alone ... -/
theorem C16_mode_independent {V : Type} (strVal : String → V) (fm : V × V × V)
    (evalI evalC : String → Matcher (Rec V) ErrKind) (p1 p2 : Present) (h : p1.noCompile = p2.noCompile)
    (selector : Option String) (o : Opts V) (srcs : List (Source (Rec V))) :
    run strVal fm evalI evalC p1 selector o srcs = run strVal fm evalI evalC p2 selector o srcs := by
  simp [run, h]

/-- ... and not on the engine either (`-n`), wherever the two engines agree on the readable records (C07). -/
theorem C16_engine_independent {V : Type} (strVal : String → V) (fm : V × V × V)
    (evalI evalC : String → Matcher (Rec V) ErrKind) (p : Present) (e : String) (o : Opts V)
    (srcs : List (Source (Rec V))) (hagree : ∀ s ∈ srcs, ∀ r ∈ s.readable, evalI e r = evalC e r) :
    run strVal fm evalI evalC { p with noCompile := true } (some e) o srcs
      = run strVal fm evalI evalC { p with noCompile := false } (some e) o srcs := by
  simp only [run, rdumpSelector_some, ↓reduceIte, Bool.false_eq_true]
  split
  · rfl
  · exact pipeline_congr strVal fm o hagree

/-- Projection, exclusion and overrides: every field of the output is a field of the input with its type and value
    unchanged; with `-F` the fields come in the requested order (unknown, reserved and excluded names skipped), with
    only `-X` in descriptor order; the descriptor name and `_generated` are kept; `_source` / `_classification` are
    the override when given, else unchanged. -/
theorem C16_projection {V : Type} (o : Opts V) (r : Rec V) :
    (∀ f ∈ (perRecord o r).fields, f ∈ r.fields) ∧
    (o.fields ≠ [] → (perRecord o r).fieldNames
        = (o.fields.filter (fun n => !o.exclude.contains n)).filter (fun n => r.fieldNames.contains n)) ∧
    (o.fields = [] → (perRecord o r).fields = r.fields.filter (fun f => !o.exclude.contains f.2.1)) ∧
    (perRecord o r).name = r.name ∧ (perRecord o r).generated = r.generated ∧
    (perRecord o r).source = o.source.getD r.source ∧
    (perRecord o r).classification = o.classification.getD r.classification := by
  rw [perRecord_eq, project_eq]
  refine ⟨fun f hf => ?_, fun hF => ?_, fun hF => if_pos hF, rfl, rfl, rfl, rfl⟩
  · split at hf
    · exact (List.mem_filter.mp hf).1
    · obtain ⟨n, _, hn⟩ := List.mem_filterMap.mp hf
      exact List.mem_of_find?_eq_some hn
  · simp only [Rec.fieldNames, if_neg hF, filterMap_find_names]

/-- `--multi-timestamp`: a record without datetime field passes unchanged; otherwise one record per datetime field,
    each carrying every original field (other than one already called ts / ts_description) with its value, in order,
    after the `ts`, `ts_description` pair, and — as extracted from the current source — the original's metadata. -/
theorem C16_expand {V : Type} (strVal : String → V) (fm : V × V × V) (r : Rec V) :
    let dts := r.fields.filter (fun f => f.1 == "datetime")
    (dts = [] → tsExpand strVal fm r = [r]) ∧
    (tsExpand strVal fm r).length = max 1 dts.length ∧
    (dts ≠ [] → ∀ x ∈ tsExpand strVal fm r,
      x.name = r.name ∧ x.source = r.source ∧ x.classification = r.classification ∧ x.generated = r.generated ∧
      x.fields.drop 2 = r.fields.filter (fun g => g.2.1 != tsField.2 && g.2.1 != tsDescField.2) ∧
      ∃ f ∈ dts, x.fields.take 2 = [(tsField.1, tsField.2, f.2.2), (tsDescField.1, tsDescField.2, strVal f.2.1)]) := by
  simp only [tsExpand_eq]
  cases r.fields.filter (fun f => f.1 == "datetime") with
  | nil => exact ⟨fun _ => rfl, rfl, fun h => absurd rfl h⟩
  | cons a t =>
    refine ⟨nofun, by simp, fun _ x hx => ?_⟩
    obtain ⟨f, hf, rfl⟩ := List.mem_map.mp hx
    exact ⟨rfl, rfl, rfl, rfl, rfl, f, hf, rfl⟩

/-- URI construction, decided over the extracted mode table: without `-w`, every mode selects its adapter URI and
    the default is the text writer; a field list travels in the query only when the mode's URI has no query of its
    own (the `"&" if … else "?" + query` precedence of the source); `-w` is taken verbatim. -/
theorem C16_uri_modes :
    (∀ row ∈ Gen.modeToUri,
      baseUri { mode := some row.1 } none none = row.2.toList ++ (if hasQuery row.2.toList then ['&'] else ['?'])) ∧
    baseUri {} none none = "text://?".toList ∧
    baseUri { mode := some "csv" } (some "a,b") (some "c") = "csvfile://?fields=a%2Cb&exclude=c".toList ∧
    baseUri { mode := some "jsonlines" } (some "a,b") none = "jsonfile://?descriptors=false&".toList ∧
    (∀ w f x, baseUri { writer := some w, mode := some "csv" } f x = w.toList) := by
  refine ⟨fun row hrow => ?_, ?_, ?_, ?_, fun w f x => rfl⟩
  · -- no field list: `baseUri_bare`; the table's keys are distinct, so each row is the one its mode looks up
    have hkeys : ∀ row ∈ Gen.modeToUri, lookupStr Gen.modeToUri row.1 = some row.2 := by decide +kernel
    simp [baseUri_bare, hkeys row hrow]
  all_goals rw [String.toList_ofList]; decide +kernel

/-- `--split`: the URI is wrapped in the split adapter (`split://` for a bare path, `split+scheme://` otherwise) with
    `count` and `suffix-length` added to the query, and `RecordAdapter` recovers from it the user's own URI and
    arguments (examples decided on the model's text functions; the harness compares them with `urlparse`). -/
theorem C16_uri_split :
    splitWrap "out.records".toList 2 2 = "split://out.records?count=2&suffix-length=2".toList ∧
    splitWrap "jsonfile://o.jsonl?descriptors=false".toList 5 3
      = "split+jsonfile://o.jsonl?descriptors=false&count=5&suffix-length=3".toList ∧
    adapterOf (splitWrap "jsonfile://o.jsonl?descriptors=false".toList 5 3)
      = ("split".toList, "jsonfile://o.jsonl".toList,
         [("descriptors".toList, "false".toList), ("count".toList, ['5']), ("suffix-length".toList, ['3'])]) ∧
    adapterOf (splitWrap "/tmp/x/out.records.gz".toList 10 2)
      = ("split".toList, "/tmp/x/out.records.gz".toList, [("count".toList, "10".toList), ("suffix-length".toList, ['2'])]) := by
  repeat rw [String.toList_ofList]
  decide +kernel

/-- `--split` in general: for every writer URI `scheme://path` (scheme without ':' and '+', path without '?' and
    '#') and every COUNT and suffix length, rdump hands `split+scheme://path?count=COUNT&suffix-length=LEN` to
    `RecordWriter`, and `RecordAdapter` takes it apart into the split adapter, the user's own URI — unchanged — and
    exactly these two arguments. -/
theorem C16_uri_split_roundtrip (scheme path : Rdump.Str) (count suffixLen : Nat)
    (hs : ∀ c ∈ scheme, c ≠ ':' ∧ c ≠ '+') (hp : ∀ c ∈ path, c ≠ '?' ∧ c ≠ '#') :
    splitWrap (scheme ++ schemeSep ++ path) count suffixLen
      = "split+".toList ++ scheme ++ schemeSep ++ path ++ ['?'] ++
          ("count".toList ++ ['='] ++ natStr count ++ ['&'] ++ "suffix-length".toList ++ ['='] ++ natStr suffixLen) ∧
    adapterOf (splitWrap (scheme ++ schemeSep ++ path) count suffixLen)
      = ("split".toList, scheme ++ schemeSep ++ path,
         [("count".toList, natStr count), ("suffix-length".toList, natStr suffixLen)]) := by
  have hs' : ':' ∉ scheme := fun h => (hs _ h).1 rfl
  have hq : '?' ∉ path := fun h => (hp _ h).1 rfl
  have hh : '#' ∉ path := fun h => (hp _ h).2 rfl
  obtain ⟨hc, hc0⟩ := plain_natStr count
  obtain ⟨hl, hl0⟩ := plain_natStr suffixLen
  exact ⟨splitWrapS_eq hs' hq hh hc hl, adapterOf_splitWrapS hs' hq hh hc hl hc0 hl0⟩

namespace C16_nonvacuous
def r (n : Nat) (ts : Nat) : Rec Nat :=
  ⟨"t/a", [("varint", "n", n), ("datetime", "t1", ts), ("string", "s", 7), ("datetime", "t2", ts + 1)], 100, 200, 300⟩
def good : Source (Rec Nat) := ⟨[r 1 10, r 2 20, r 3 30], none⟩
def missing : Source (Rec Nat) := ⟨[], some .io⟩
def truncated : Source (Rec Nat) := ⟨[r 4 40, r 5 50], some .other⟩
def even : Matcher (Rec Nat) ErrKind := fun x => .ok (x.fields.any fun f => f.2.1 == "n" && f.2.2 % 2 == 0)
def opts : Opts Nat := { skip := 1, count := some 2, fields := ["s", "n", "zz"], source := some 9 }
example : (pipeline (fun _ => 0) (0, 0, 0) opts (some even) [missing, good, truncated, missing, good]).written
    = [⟨"t/a", [("string", "s", 7), ("varint", "n", 4)], 9, 200, 300⟩,
       ⟨"t/a", [("string", "s", 7), ("varint", "n", 2)], 9, 200, 300⟩] := by decide +kernel
example : ((pipeline (fun _ => 0) (0, 0, 0) { multiTs := true, exclude := ["s"] } none [good]).written.map
    (·.fields.map (·.2.1))).take 2 = [["ts", "ts_description", "n", "t1", "t2"], ["ts", "ts_description", "n", "t1", "t2"]] := by
  decide +kernel
example : (pipeline (fun _ => 0) (0, 0, 0) { list := true } none [good, truncated]).listed.length = 1 := by decide +kernel
end C16_nonvacuous
