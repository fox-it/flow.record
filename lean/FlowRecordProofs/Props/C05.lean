import FlowRecordProofs.Lemmas.Coerce
/-!
C05 — record fields always hold values of their declared type.
About the transcription of the field-type constructors and of the record object in `Model/Coerce.lean`. Every input
carries the answers of CPython's builtins / stdlib as annotations; the theorems quantify over ALL inputs including all
annotations, i.e. they hold whatever those libraries answer.
-/
open FlowRecord FlowRecord.Coerce
open FlowRecord.Descriptor (cps)

/-- Every constructor — scalar or typed list, any input of any kind — returns, when it returns at all, a value of the
    declared class; the elements of a typed list are of the element class. -/
theorem C05_constructor_typed (t : FType) (x : Inp) (v : FVal) (h : coerce t x = .ok v) : hasType t v = true :=
  okAll_iff.mp (coerce_hasType t x) v h

/-- Construction: a record that comes into existence is well typed (each slot unset / its documented default / a
    value of the declared class), whatever the arguments. -/
theorem C05_construct_typed (types : List (Str × FType)) (args : List Inp) (r : Record)
    (h : construct types args = .ok r) : wellTyped r = true :=
  okAll_iff.mp (construct_wellTyped types args) r h

/-- INVARIANT: every operation (attribute assignment, `_replace`) on a well-typed record leaves a well-typed
    record — whether it succeeds or is refused. -/
theorem C05_inv (r : Record) (op : Op) (h : wellTyped r = true) : wellTyped (step r op).1 = true := by
  refine step.fun_cases_unfolding r (motive := fun _ res => wellTyped res.1 = true)
    ?assigned ?assignRefused ?replaced ?replaceRefused op
  case assigned => exact fun k v => okAll_iff.mp (assign_wellTyped r k v h)
  case replaced => exact fun kvs => okAll_iff.mp (replace_wellTyped r kvs h)
  case assignRefused | replaceRefused => intros; exact h

/-- … lifted to every history: from a well-typed record, after ANY sequence of operations (successful or refused, of
    any length), the record is well typed. Together with `C05_construct_typed`: every reachable record is. -/
theorem C05_reachable (r : Record) (ops : List Op) (h : wellTyped r = true) : wellTyped (run r ops) = true := by
  induction ops generalizing r with
  | nil => exact h
  | cons op ops ih => exact ih (step r op).1 (C05_inv r op h)

/-- A refused operation leaves the record exactly as it was. -/
theorem C05_failed_assign_unchanged (r : Record) (op : Op) (e : Err) (h : (step r op).2 = some e) :
    (step r op).1 = r := by
  refine step.fun_cases_unfolding r (motive := fun _ res => res.2 = some e → res.1 = r)
    ?assigned ?assignRefused ?replaced ?replaceRefused op h
  case assigned | replaced => intros; rename_i he; cases he     -- no error is reported
  case assignRefused | replaceRefused => intros; rfl

/-- `__setattr__` rule: `None` is stored as it is, without any conversion, into any slot; a name that is not a slot is
    refused; the record's other slots are never touched by an assignment. -/
theorem C05_setattr_rule (r : Record) (k : Str) (a : Ann) :
    (slotIndex r k = Option.none → ∀ v, assign r k v = .error .attributeError) ∧
    (∀ i, slotIndex r k = some i → assign r k (.none a) = .ok { r with vals := r.vals.set i .unset }) ∧
    (∀ v r', assign r k v = .ok r' → r'.types = r.types ∧
      ∃ i fv, slotIndex r k = some i ∧ r'.vals = r.vals.set i fv) := by
  refine ⟨fun h v => by simp [assign, h], fun i h => by simp [assign, h], fun v r' h => ?_⟩
  obtain ⟨i, -, fv, hi, -, -, rfl⟩ := assign_ok_inv h
  exact ⟨rfl, i, fv, hi, rfl⟩

/-- EXACT BOUNDARIES over all of ℤ (any annotations): an int is accepted by uint16 / uint32 / the port types iff it
    lies within the bounds extracted from the source; by boolean iff it is 0 or 1. -/
theorem C05_boundaries (n : Int) (a : Ann) :
    ((∃ v, coerce (.scalar (.uint .uint16)) (.num (.int n) a) = .ok v) ↔ Gen.uint16Min ≤ n ∧ n ≤ Gen.uint16Max) ∧
    ((∃ v, coerce (.scalar (.uint .port)) (.num (.int n) a) = .ok v) ↔ Gen.uint16Min ≤ n ∧ n ≤ Gen.uint16Max) ∧
    ((∃ v, coerce (.scalar (.uint .uint32)) (.num (.int n) a) = .ok v) ↔ Gen.uint32Min ≤ n ∧ n ≤ Gen.uint32Max) ∧
    ((∃ v, coerce (.scalar .boolean) (.num (.int n) a) = .ok v) ↔ n = 0 ∨ n = 1) := by
  have hu : ∀ c, (∃ v, coerce (.scalar (.uint c)) (.num (.int n) a) = .ok v) ↔ (uBounds c).1 ≤ n ∧ n ≤ (uBounds c).2.1 :=
    fun c => (uint_accepts c _).trans (accepts_int_iff ..)
  refine ⟨hu .uint16, hu .port, hu .uint32, (boolean_accepts _).trans ((accepts_int_iff ..).trans ?_)⟩
  simp only [Gen.booleanMin, Gen.booleanMax]
  omega

/-- … instantiated at the constants of the current source: 0..65535, 0..4294967295, 0..1; uint16/uint32 do not test
    for fractions (so `uint16(3.7)` is accepted with truncation, by design of `int.__new__`), boolean does. -/
theorem C05_bounds_inst :
    Gen.uint16Min = 0 ∧ Gen.uint16Max = 65535 ∧ Gen.uint32Min = 0 ∧ Gen.uint32Max = 4294967295 ∧
    Gen.booleanMin = 0 ∧ Gen.booleanMax = 1 ∧ Gen.uint16RejectsFractions = false ∧
    Gen.uint32RejectsFractions = false ∧ Gen.booleanRejectsFractions = true :=
  ⟨rfl, rfl, rfl, rfl, rfl, rfl, rfl, rfl, rfl⟩

/-- A fractional value is never a boolean (the repaired defect): a finite float p/q is accepted iff it is 0 or 1. -/
theorem C05_boolean_fraction (p : Int) (q : Nat) (hq : 0 < q) (a : Ann) :
    (∃ v, coerce (.scalar .boolean) (.num (.rat p q) a) = .ok v) ↔ p = 0 ∨ p = q := by
  refine (boolean_accepts _).trans ?_
  have hfr : Gen.booleanRejectsFractions = true := by decide
  simp only [intNew, inRange, hfr, Gen.booleanMin, Gen.booleanMax, Except.ok.injEq, exists_eq', true_and, Bool.not_true,
    Bool.false_or, Bool.and_eq_true, decide_eq_true_eq, beq_iff_eq, Int.zero_mul, Int.one_mul]
  constructor
  · rintro ⟨⟨h1, h2⟩, h3⟩
    -- 0 ≤ p ≤ q and q ∣ p: either p = q, or p < q and then p = p % q = 0
    by_cases hpq : p = q
    · exact .inr hpq
    · exact .inl (by rw [← Int.emod_eq_of_lt h1 (by omega : p < q), h3])
  · rintro (rfl | rfl)
    · simp
    · simp [Int.emod_self]

/-- A `bytes` field accepts ONLY bytes — and keeps them unchanged. -/
theorem C05_bytes_only_bytes (x : Inp) (v : FVal) (h : coerce (.scalar .bytes) x = .ok v) :
    ∃ b a e, x = .bytes b a e ∧ v = .bytes b := by
  simp only [coerce, coerceBT] at h
  split at h
  · rename_i b a e
    simp at h; exact ⟨b, a, e, rfl, h.symm⟩
  · split at h <;> cases h

/-- Conversions on the way in: a naive datetime becomes UTC with the same wall clock, an aware one keeps its offset;
    a str is kept as it is; typed lists and digests default to their empty value, every other type to None; an empty
    / falsy argument makes an empty typed list. -/
theorem C05_conversions (wall : List Int) (off : Int) (a : Ann) (s : Str) (e : List Inp) (t : BT) :
    coerce (.scalar .datetime) (.dt wall Option.none a) = .ok (.dt wall 0) ∧
    coerce (.scalar .datetime) (.dt wall (some off) a) = .ok (.dt wall off) ∧
    coerce (.scalar .string) (.str s a e) = .ok (.str .string s) ∧
    initSlot (.list t) (.none a) = .ok (.typedList t []) ∧
    initSlot (.scalar .digest) (.none a) = .ok (.digest Option.none Option.none Option.none) ∧
    coerce (.list t) (.list [] a) = .ok (.typedList t []) ∧ coerce (.list t) (.str [] a e) = .ok (.typedList t []) :=
  ⟨rfl, rfl, rfl, rfl, rfl, rfl, rfl⟩

/-- A digest from a 3-sequence is accepted only if every given part is a str of hex digits of exactly the digest's
    length (32 / 40 / 64). -/
theorem C05_digest_validated (a b c : Inp) (an : Ann) (m s1 s2 : Option Str)
    (h : coerce (.scalar .digest) (.tuple [a, b, c] an) = .ok (.digest m s1 s2)) :
    (∀ x, m = some x → isHexStr x = true ∧ x.length = 32) ∧ (∀ x, s1 = some x → isHexStr x = true ∧ x.length = 40) ∧
    (∀ x, s2 = some x → isHexStr x = true ∧ x.length = 64) := by
  -- on a 3-tuple `coerce (.scalar .digest)` is, by definition, the `do` block over the three `digestPart`s
  obtain ⟨m', hm, h⟩ := bind_ok_inv h
  obtain ⟨s1', h1, h⟩ := bind_ok_inv h
  obtain ⟨s2', h2, h⟩ := bind_ok_inv h
  cases h
  exact ⟨fun _ e => digestPart_some (e ▸ hm), fun _ e => digestPart_some (e ▸ h1), fun _ e => digestPart_some (e ▸ h2)⟩

/-- Full-strength claim "a record that accepted all its assignments can always be serialised". -/
def C05_serialisable_statement : Prop := ∀ r : Record, wellTyped r = true → serialisable r = true

/-- It is false of model and code: `string('\ud800')` — a lone surrogate that is not a surrogate escape — is accepted
    (the record is constructed and well typed) but cannot be serialised. Replayed on the real code by the harness. -/
theorem C05_serialisable_counterexample : ¬ C05_serialisable_statement := by
  intro hs
  have hc : construct [(cps "s", .scalar .string)] [.str [0xD800] [] []] =
      .ok ⟨[(cps "s", .scalar .string)], [.str .string [0xD800]]⟩ := rfl
  have := hs _ (C05_construct_typed _ _ _ hc)
  revert this; decide

/-- … and it holds for every record in which every text is encodable and no value is of the `net.ipv4.Subnet` class
    (which has no `_pack`): those are the only two obstacles. -/
theorem C05_serialisable_partial (r : Record)
    (htext : ∀ v ∈ r.vals, (∀ c s, v = .str c s → encodable s = true) ∧
      (∀ t xs, v = .typedList t xs → ∀ e ∈ xs, (∀ c s, e = .str c s → encodable s = true) ∧ ∀ l, e ≠ .obj .ipv4Subnet l) ∧
      (∀ d xs, v = .plainList d xs → inpsText xs = true) ∧ (∀ x, v = .raw x → inpText x = true) ∧
      ∀ l, v ≠ .obj .ipv4Subnet l) :
    serialisable r = true := by
  refine List.all_eq_true.mpr fun v hv => ?_
  obtain ⟨h1, h2, h3, h4, h5⟩ := htext v hv
  -- along the clauses of `packable` (a Subnet object, a text, a typed list, a plain list, a raw value, anything else):
  -- the hypotheses name exactly those that can say `false`
  fun_cases packable v
  case case1 l => exact absurd rfl (h5 l)
  case case2 c s => exact h1 c s rfl
  case case3 t xs =>
    refine List.all_eq_true.mpr fun e he => ?_
    obtain ⟨e1, e2⟩ := h2 t xs rfl e he
    split
    · exact e1 _ _ rfl
    · exact absurd rfl (e2 _)
    · rfl
  case case4 d xs => exact h3 d xs rfl
  case case5 x => exact h4 x rfl
  case case6 => rfl

/-- The model covers the whole whitelist, and the source has the `__setattr__` tests and `default()` overrides the
    model transcribes (re-decided against the working tree on every run). -/
theorem C05_source_shape :
    (∀ w ∈ Gen.WHITELIST, (btOfName w).isSome = true) ∧
    Gen.setattrOuterTest = "v is not None and k in self.__slots__ and field_type" ∧
    Gen.setattrInnerTest = "not isinstance(v, field_type)" ∧ Gen.setattrCoercion = "v = field_type(v)" ∧
    Gen.setattrStore = "super().__setattr__(k, v)" ∧ Gen.typesOverridingDefault = ["typedlist", "digest"] := by
  refine ⟨by decide +kernel, rfl, rfl, rfl, rfl, rfl⟩

/-- A REFUSED ASSIGNMENT CHANGES NOTHING, also one level down: assigning to one hash of a digest that sits in a record
    (`rec.d.md5 = x`) either stores the accepted value or raises and leaves the hash as it was - for every input and
    every previous content. (Before fix 7732112 a hex text of the wrong length was stored and then refused; that
    the setters check before they assign is the regenerated `Gen.digestSetterChecksFirst`, evaluated in the proof.) -/
theorem C05_refused_digest_assignment_changes_nothing (n : Nat) (old : Option (List Nat))
    (x : FlowRecord.Coerce.Inp) :
    (∀ v, FlowRecord.Coerce.digestPart n x = .ok v → FlowRecord.Coerce.digestAssign n old x = (v, none)) ∧
    (∀ e, FlowRecord.Coerce.digestPart n x = .error e → FlowRecord.Coerce.digestAssign n old x = (old, some e)) := by
  have hgen : Gen.digestSetterChecksFirst = true := by decide
  constructor
  · intro v h; simp [digestAssign, h]
  · intro e h; simp [digestAssign, h, hgen]

-- Non-vacuity: concrete histories with accepted and refused steps.
namespace C05_nonvacuous
def types : List (Str × FType) := [(cps "a", .scalar .boolean), (cps "b", .scalar (.uint .uint16)), (cps "l", .list (.uint .uint16))]
def r0 : Record := ⟨types, [.boolean true, .uint .uint16 5 (.int 5), .typedList (.uint .uint16) []]⟩
example : construct types [.num (.bool true) [], .num (.int 5) [], .none []] = .ok r0 := rfl
example : wellTyped r0 = true := by decide
example : (step r0 (.assign (cps "a") (.num (.rat 1 2) []))).2 = some .valueError := by decide
example : (step r0 (.assign (cps "b") (.num (.int 65536) []))).2 = some .valueError := by decide
example : (step r0 (.assign (cps "b") (.num (.int 65535) []))).1.vals =
    [.boolean true, .uint .uint16 65535 (.int 65535), .typedList (.uint .uint16) []] := rfl
example : (step r0 (.assign (cps "b") (.num (.rat 37 10) []))).1.vals =
    [.boolean true, .uint .uint16 3 (.rat 37 10), .typedList (.uint .uint16) []] := rfl
example : (step r0 (.assign (cps "zz") (.num (.int 1) []))).2 = some .attributeError := by decide
example : (step r0 (.assign (cps "l") (.list [.num (.int 1) [], .num (.int 70000) []] []))).2 = some .valueError := by decide
example : (step r0 (.assign (cps "b") (.str (cps "12") [("int", .int 12)] []))).2 = some .typeError := by decide
end C05_nonvacuous
