import FlowRecord.Model.Detect
import FlowRecordProofs.Lemmas.HeaderMagic
import FlowRecordProofs.Lemmas.Detect
/-!
C11 — compression and container format are detected transparently.
All theorems are about the tables as extracted from the current source (`Gen`); the codec libraries are the hypothesis
`CodecLaws` (exercised against the real codecs by harness/props/C11.py). The rows of the tables are read by position
(layout: header of Lemmas/Detect).
-/
open FlowRecord hiding Bytes
open FlowRecord.Detect

/-- The magic table is unambiguous: no magic is a prefix of another, of the stream header or of "Obj". -/
theorem C11_magic_unambiguous :
    (∀ r1 ∈ Gen.openStreamChain, ∀ r2 ∈ Gen.openStreamChain, r1 ≠ r2 → r1.2.2.1.isPrefixOf r2.2.2.1 = false) ∧
    (∀ r ∈ Gen.openStreamChain, r.2.2.1.isPrefixOf streamHeader = false ∧ r.2.2.1.isPrefixOf Gen.AVRO_MAGIC = false
      ∧ r.2.2.1.length = r.2.1 ∧ r.2.1 ≤ Gen.RECORDSTREAM_MAGIC_DEPTH) := by
  decide +kernel

/-- the length column of the table: the part of `C11_magic_unambiguous` that the sniffing lemmas ask for -/
theorem openStreamChain_magic_length : ∀ r ∈ Gen.openStreamChain, r.2.2.1.length = r.2.1 :=
  fun r hr => (C11_magic_unambiguous.2 r hr).2.2.1

/-- Every codec magic is recognised from the leading bytes, for *all* continuations and whatever other
    optional codecs are installed. -/
theorem C11_sniff_magic (avail : String → Bool) (tail : Bytes) :
    ∀ row ∈ Gen.openStreamChain, flagOk avail row.1 = true →
      sniffCodec avail (row.2.2.1 ++ tail) = row.2.2.2 := by
  intro row hrow hflag
  obtain ⟨hdistinct, -⟩ := C11_magic_unambiguous
  refine sniffCodecIn_eq openStreamChain_magic_length
    ⟨row, hrow, hflag, List.isPrefixOf_iff_prefix.mpr (List.prefix_append _ _)⟩ fun r hr hp => ?_
  -- a row whose magic leads `row`'s magic followed by anything is `row`: neither magic leads the other
  by_cases h : r = row
  · rw [h]
  · rcases isPrefixOf_of_common hp with h' | h'
    · rw [hdistinct r hr row hrow h] at h'; cases h'
    · rw [hdistinct row hrow r hr (Ne.symm h)] at h'; cases h'

/-- A plain record stream is never taken for a compressed one and is recognised as a stream;
    the header frame is the one the published format fixes. -/
theorem C11_plain_stream (avail : String → Bool) (tail : Bytes) :
    sniffCodec avail (streamHeader ++ tail) = "none" ∧ sniffContainer avail (streamHeader ++ tail) = "stream" := by
  constructor
  · refine sniffCodecIn_none openStreamChain_magic_length fun r hr => ?_
    -- a magic does not lead the header frame and is no longer than it
    obtain ⟨hstream, -, hlen, hdepth⟩ := C11_magic_unambiguous.2 r hr
    exact isPrefixOf_append_false (hlen ▸ hdepth) hstream
  · -- the Avro slice is that of the header frame alone; the sniffing depth is the whole header frame, magic included
    have h1 : (streamHeader ++ tail).take 3 = streamHeader.take 3 := List.take_append_of_le_length (by decide)
    have h2 : (streamHeader ++ tail).take Gen.RECORDSTREAM_MAGIC_DEPTH = streamHeader := List.take_left' (by decide)
    have h3 : (streamHeader.take 3 == Gen.AVRO_MAGIC) = false := by decide
    have h4 : containsBytes Gen.RECORDSTREAM_MAGIC streamHeader = true := by decide
    rw [sniffContainer_eq, h1, h2, h3, Bool.and_false, h4]
    rfl

/-- An Avro container is never taken for a compressed stream and is recognised as Avro. -/
theorem C11_plain_avro (avail : String → Bool) (tail : Bytes) (h : avail "HAS_AVRO" = true) :
    sniffCodec avail (Gen.AVRO_MAGIC ++ tail) = "none" ∧ sniffContainer avail (Gen.AVRO_MAGIC ++ tail) = "avro" := by
  constructor
  · have hv : ∀ r ∈ Gen.openStreamChain, Gen.AVRO_MAGIC.isPrefixOf r.2.2.1 = false := by decide
    refine sniffCodecIn_none openStreamChain_magic_length fun r hr => Bool.eq_false_iff.mpr fun hp => ?_
    obtain ⟨-, havro, -, -⟩ := C11_magic_unambiguous.2 r hr
    rcases isPrefixOf_of_common hp with h' | h'
    · rw [havro] at h'; cases h'
    · rw [hv r hr] at h'; cases h'
  · have h1 : (Gen.AVRO_MAGIC ++ tail).take 3 = Gen.AVRO_MAGIC := List.take_left' rfl
    rw [sniffContainer_eq, h, h1]
    rfl

/-- File objects / stdin: for every installed codec and both containers, the compressed bytes are opened as the
    container they hold and decompress to exactly what was written. -/
theorem C11_roundtrip_fileobj (L : CodecLaws) (avail : String → Bool) (tail : Bytes)
    (hav : avail "HAS_AVRO" = true) :
    ∀ row ∈ Gen.openStreamChain, flagOk avail row.1 = true →
      openFileObj L avail (L.compress row.2.2.2 (streamHeader ++ tail)) = .records "stream" (streamHeader ++ tail) ∧
      openFileObj L avail (L.compress row.2.2.2 (Gen.AVRO_MAGIC ++ tail)) = .records "avro" (Gen.AVRO_MAGIC ++ tail) := by
  intro row hrow hflag
  have key : ∀ x, sniffCodec avail (L.compress row.2.2.2 x) = row.2.2.2 := by
    intro x
    obtain ⟨t, ht⟩ := L.magic row hrow x
    rw [ht]; exact C11_sniff_magic avail t row hrow hflag
  constructor
  · simp [openFileObj, key, L.roundtrip, (C11_plain_stream avail tail).2]
  · simp [openFileObj, key, L.roundtrip, (C11_plain_avro avail tail hav).2]

/-- Uncompressed file objects. -/
theorem C11_roundtrip_fileobj_plain (L : CodecLaws) (avail : String → Bool) (tail : Bytes)
    (hav : avail "HAS_AVRO" = true) :
    openFileObj L avail (streamHeader ++ tail) = .records "stream" (streamHeader ++ tail) ∧
    openFileObj L avail (Gen.AVRO_MAGIC ++ tail) = .records "avro" (Gen.AVRO_MAGIC ++ tail) := by
  constructor
  · simp [openFileObj, (C11_plain_stream avail tail).1, (C11_plain_stream avail tail).2, L.none_id_d]
  · simp [openFileObj, (C11_plain_avro avail tail hav).1, (C11_plain_avro avail tail hav).2, L.none_id_d]

/-- The suffix chain: every listed extension selects its codec, whatever precedes it in the name. -/
theorem C11_path_suffix (base : List Char) :
    ∀ row ∈ Gen.openPathChain, ∀ sfx ∈ row.1, pathCodec (base ++ sfx.toList) = row.2 := by
  simp [Gen.openPathChain, pathCodec, pathCodecIn, endsWith]

/-- Every codec a path can select when writing is one the reader can sniff (cross-table consistency). -/
theorem C11_path_codecs_sniffable :
    ∀ row ∈ Gen.openPathChain, ∃ r ∈ Gen.openStreamChain, r.2.2.2 = row.2 := by
  decide

/-- Paths: what is written under a name reads back under the same name, and — when the plaintext is a record
    stream or Avro container — under a name that does not reveal the codec. -/
theorem C11_roundtrip_path (L : CodecLaws) (avail : String → Bool) (wpath : List Char) (x : Bytes) :
    openPathRead L avail wpath (writePath L wpath x) = some x ∨ pathCodec wpath = "none" := by
  by_cases h : pathCodec wpath = "none"
  · exact Or.inr h
  · left; simp [openPathRead, writePath, h, L.roundtrip]

/-- A record stream written under ANY name reads back under a name that selects no codec (`hneutral`): the reader
    sniffs the codec the writer's suffix chose. Hypothesis `hall`: every codec of the sniffing table is installed. -/
theorem C11_roundtrip_neutral_name (L : CodecLaws) (avail : String → Bool) (wpath rpath : List Char) (tail : Bytes)
    (hall : ∀ row ∈ Gen.openStreamChain, flagOk avail row.1 = true)
    (hneutral : pathCodec rpath = "none") :
    openPathRead L avail rpath (writePath L wpath (streamHeader ++ tail)) = some (streamHeader ++ tail) := by
  simp only [openPathRead, hneutral, writePath]
  by_cases h : pathCodec wpath = "none"
  · simp [h, L.none_id_c, (C11_plain_stream avail tail).1, L.none_id_d]
  · -- the codec chosen by the writer's suffix is one of the sniffable rows
    obtain ⟨r, hr, hrc⟩ : ∃ r ∈ Gen.openStreamChain, r.2.2.2 = pathCodec wpath := by
      obtain h' | ⟨row, hm, h'⟩ := pathCodecIn_mem Gen.openPathChain wpath
      · exact absurd h' h
      · obtain ⟨r, hr, hrc⟩ := C11_path_codecs_sniffable row hm
        exact ⟨r, hr, hrc.trans h'⟩
    obtain ⟨t, ht⟩ := L.magic r hr (streamHeader ++ tail)
    have hs : sniffCodec avail (L.compress (pathCodec wpath) (streamHeader ++ tail)) = pathCodec wpath := by
      rw [← hrc, ht]; exact C11_sniff_magic avail t r hr (hall r hr)
    simp [hs, L.roundtrip]

/-- Input that carries none of the magics is refused, never read as records. -/
theorem C11_refuse (L : CodecLaws) (avail : String → Bool) (bs : Bytes)
    (h1 : sniffCodec avail bs = "none")
    (h2 : bs.take 3 ≠ Gen.AVRO_MAGIC)
    (h3 : containsBytes Gen.RECORDSTREAM_MAGIC (bs.take Gen.RECORDSTREAM_MAGIC_DEPTH) = false) :
    openFileObj L avail bs = .adapterNotFound := by
  have : sniffContainer avail bs = "none" := by
    rw [sniffContainer_eq, beq_eq_false_iff_ne.mpr h2, Bool.and_false, h3]
    rfl
  simp [openFileObj, h1, L.none_id_d, this]

/-- Second line of refusal, the reader's own header check (`readheader`): the stream adapter is chosen as soon as the
    magic occurs anywhere within the sniffing depth, but input in which the magic sits EARLIER than in a header frame
    (0 to 5 bytes before it instead of 6, whatever those bytes and whatever follows) is refused with a format error,
    never read as records. -/
theorem C11_refuse_misplaced_magic (junk tail : Bytes) (hj : junk.length < 6)
    (hl : Stream.headerLen ≤ (junk ++ Gen.RECORDSTREAM_MAGIC ++ tail).length) :
    Stream.readHeader (junk ++ Gen.RECORDSTREAM_MAGIC ++ tail) = none :=
  Stream.readHeader_misplaced_magic junk tail hj hl

/-- The genuine header frame passes the reader's header check, whatever follows. -/
theorem C11_header_accepted (tail : Bytes) :
    Stream.readHeader (streamHeader ++ tail) = some tail :=
  Stream.streamHeader_eq ▸ Stream.readHeader_magic tail

/-- Recorded finding: the length hypothesis of `C11_refuse_misplaced_magic` cannot be dropped. An input SHORTER than
    a header frame that ends with the magic — here the 13 magic bytes alone — passes the header check and is read as
    an empty stream (the check is `endswith` on up to 19 bytes). No record is misread. -/
theorem C11_short_input_counterexample : Stream.readHeader Gen.RECORDSTREAM_MAGIC = some [] := by decide

/-- The extension table: names ending in .avro/.json/.jsonl/.csv select their adapter, everything else the
    binary stream adapter (tables as extracted). -/
theorem C11_ext_table :
    Gen.extToAdapter = [(".avro", "avro"), (".json", "jsonfile"), (".jsonl", "jsonfile"), (".csv", "csvfile")] ∧
    Gen.defaultAdapter = "stream" ∧ Gen.openPathSniffsWhenReading = true ∧
    Gen.openPathChain = [([".gz"], "gzip"), ([".bz2"], "bz2"), ([".lz4"], "lz4"), ([".zstd", ".zst"], "zstd")] ∧
    Gen.openStreamWriteModePassThrough = true :=
  ⟨rfl, rfl, rfl, rfl, rfl⟩

-- Non-vacuity: the hypotheses are satisfiable (a toy codec that prepends the magic).
namespace C11_nonvacuous
def magicOf (c : String) : Bytes :=
  match Gen.openStreamChain.find? (fun r => r.2.2.2 == c) with
  | some r => r.2.2.1
  | none => []
def toy : CodecLaws where
  compress c x := magicOf c ++ x
  decompress c bs := some (bs.drop (magicOf c).length)
  none_id_c := by intro x; simp [magicOf, Gen.openStreamChain, List.find?]
  none_id_d := by intro x; simp [magicOf, Gen.openStreamChain, List.find?]
  roundtrip := by intro c x; simp
  magic := by
    intro row hrow x
    simp only [Gen.openStreamChain, List.mem_cons, List.mem_nil_iff, or_false] at hrow
    rcases hrow with h | h | h | h <;> subst h <;> exact ⟨x, by simp [magicOf, Gen.openStreamChain, List.find?]⟩
example : openFileObj toy (fun _ => true) (toy.compress "zstd" (streamHeader ++ [1, 2, 3]))
    = .records "stream" (streamHeader ++ [1, 2, 3]) := by decide +kernel
example : openFileObj toy (fun _ => true) [60, 114, 101, 99] = .adapterNotFound := by decide
end C11_nonvacuous
