import FlowRecordProofs.Lemmas.SelectorTrace
/-!
C09 — the interpreted selector is a sandbox.

The model is `interp` (Model/Selector/Interp.lean): `RecordContextMatcher._eval` transcribed branch by branch and
instrumented with an effect trace (`call callee`, `getattr obj name`, `modattr obj part` for the resolution of a
whitelisted constructor path, `fallback id` for a Name that is not in the namespace). Every theorem below is for
**every** `Prim` — in particular for an adversarial one in which any attribute of any value is a foreign callable
and every primitive returns whatever it likes — every expression (no `Supported` premise), every fuel and state.
-/
open FlowRecord FlowRecord.Selector

/-- The callables a selector may invoke: those bound in the namespace when `matches` constructs it
    (`str repr fields any all` + `FUNCTION_WHITELIST`, read from the extracted key lists) and the field-type
    constructors reached through a path of the extracted `WHITELIST`. -/
def C09_Allowed (P : Prim) (v : PVal) : Prop :=
  (∃ n, allowedCalls.contains n = true ∧ v = .builtin n) ∨
  (∃ w, Gen.WHITELIST.contains w = true ∧ rResolve P (.ftype "") (splitDot w) = .ok v)

/-- What the engine is allowed to do besides computing values. -/
def C09_GoodEvent (P : Prim) : Event → Prop
  | .call c => C09_Allowed P c
  | .getattr _ a => hasPrefix "__" a = false
  | .modattr _ part => hasPrefix "__" part = false
  | .fallback id => hasPrefix "__" id = false

/-- Inst: the attribute branch refuses exactly the prefix `__`, no component of a whitelisted constructor path
    is a double-underscore name, and the Name branch refuses a `__` name before the whitelist-module fallback. -/
theorem C09_tables :
    Gen.attrRefusedPrefix = "__" ∧ (∀ w ∈ Gen.WHITELIST, ∀ part ∈ splitDot w, hasPrefix "__" part = false) ∧
    flagsOk = true ∧ Gen.evalNodeKinds.contains "Call" = true ∧ Gen.evalNodeKinds.contains "Attribute" = true ∧
    Gen.nameFallbackRefusesDunder = true ∧ Gen.nameRefusedPrefix = "__" :=
  ⟨attrRefusedPrefix_eq, whitelist_no_dunder, flagsOk_true, kinds_handled _ (by simp), kinds_handled _ (by simp), rfl,
    rfl⟩

/-- `C09.` and not `C09_`, here and at `C09.match_events_good`: a step of the proofs below, not one of the property's
    theorems. -/
theorem C09.goodEvent_of_logged {P : Prim} {ev : Event} (h : Logged P ev) : C09_GoodEvent P ev := by
  cases h with
  | builtin hn => exact Or.inl ⟨_, hn, rfl⟩
  | ctor hw hv => exact Or.inr ⟨_, hw, hv⟩
  | getattr h | fallback h => exact h
  | modattr _ hw hp => exact whitelist_no_dunder _ (by simpa using hw) _ hp

def C09_traceInvariant (P : Prim) : Invariant P where
  inv s := ∀ ev ∈ s.trace, C09_GoodEvent P ev
  ns_irrel := fun _ _ h => h
  log_ok := fun _ _ h hev =>
    List.forall_mem_append.2 ⟨h, List.forall_mem_singleton.2 (C09.goodEvent_of_logged hev)⟩

/-- Safety invariant over the whole effect trace, by induction on the evaluation: whatever the expression and
    whatever the primitives do, every callable the engine invokes is an allowed one, and every attribute it reads
    has a name that does not start with `__`. -/
theorem C09_calls_allowed (P : Prim) (fuel : Nat) (e : Expr) (st : St)
    (h0 : ∀ ev ∈ st.trace, C09_GoodEvent P ev) :
    ∀ ev ∈ (interp P fuel e st).1.trace, C09_GoodEvent P ev :=
  (pres_interp (C09_traceInvariant P) fuel e st h0).1

/-- The same for a whole `match`: the trace starts empty. -/
theorem C09.match_events_good (P : Prim) (fuel : Nat) (rec : PVal) (e : Expr) :
    ∀ ev ∈ (interpMatch P fuel rec e).1.trace, C09_GoodEvent P ev :=
  interpMatch_eq fuel rec e ▸ C09_calls_allowed P fuel e _ (fun _ h => nomatch h)

theorem C09_match_calls_allowed (P : Prim) (fuel : Nat) (rec : PVal) (e : Expr) :
    ∀ c, Event.call c ∈ (interpMatch P fuel rec e).1.trace → C09_Allowed P c :=
  fun _ hc => C09.match_events_good P fuel rec e _ hc

/-- No double-underscore attribute is ever read: not by an `Attribute` node, not while resolving a constructor, and
    not by a Name that falls back to the whitelist module object (`getattr(dynamic_fieldtype, id)`). -/
theorem C09_no_dunder (P : Prim) (fuel : Nat) (rec : PVal) (e : Expr) :
    (∀ obj a, Event.getattr obj a ∈ (interpMatch P fuel rec e).1.trace → hasPrefix "__" a = false) ∧
    (∀ obj a, Event.modattr obj a ∈ (interpMatch P fuel rec e).1.trace → hasPrefix "__" a = false) ∧
    (∀ id, Event.fallback id ∈ (interpMatch P fuel rec e).1.trace → hasPrefix "__" id = false) :=
  have key := C09.match_events_good P fuel rec e
  ⟨fun _ _ h => key _ h, fun _ _ h => key _ h, fun _ h => key _ h⟩

/-- A double-underscore attribute access is refused before its object expression is evaluated: the state is
    untouched (no event at all), for every sub-expression `v`. -/
theorem C09_dunder_refused_first (P : Prim) (fuel : Nat) (v : Expr) (a : String) (st : St)
    (ha : hasPrefix "__" a = true) :
    interp P (fuel + 1) (.attr v a) st = (st, .error .invalidOp) := by
  rw [interp_succ, evalStep_attr, if_pos ha]; rfl

/-- The call target as the `Call` branch sees it: the dotted path when the target is a Name-rooted attribute chain
    that is an allowed name or a whitelisted constructor path. -/
def C09_targetAccepted (func : Expr) : Bool :=
  isNameOrAttr func &&
  match resolveAttrPath func with
  | none => false
  | some fname => allowedCalls.contains fname || Gen.WHITELIST.contains fname

/-- Refusal comes first: a call whose target is not accepted — a call result, a constant, a subscript, a lambda,
    a parenthesised expression, a method of a value, a generator variable, an unknown name — is refused with
    `InvalidOperation` before the target or any argument is evaluated: the state is untouched, no event logged. -/
theorem C09_refusal_first (P : Prim) (fuel : Nat) (func : Expr) (args : List Expr) (kwargs : List (String × Expr))
    (st : St) (h : C09_targetAccepted func = false) :
    interp P (fuel + 1) (.call func args kwargs) st = (st, .error .invalidOp) := by
  rw [interp_succ, evalStep_call]
  unfold evalCall
  unfold C09_targetAccepted at h
  cases hna : isNameOrAttr func with
  | false => simp [M.throw]
  | true =>
    simp only [hna, Bool.true_and] at h
    cases hp : resolveAttrPath func with
    | none => simp [M.throw]
    | some fname =>
      simp only [hp, Bool.or_eq_false_iff] at h
      have h1 : fname ∉ allowedCalls := by simpa using h.1
      have h2 : fname ∉ Gen.WHITELIST := by simpa using h.2
      simp [h1, h2, M.throw]

/-- Only a Name-rooted chain resolves at all (`resolve_attr_path` returns None otherwise): targets hanging off a
    call result, a constant, a subscript, an operator expression are never accepted. -/
theorem C09_nonname_root_refused (func : Expr) (h : ∀ id, (attrChain func).2 ≠ .name id) :
    C09_targetAccepted func = false := by
  have : resolveAttrPath func = none := by
    unfold resolveAttrPath
    dsimp only
    split
    · exact absurd ‹_› (h _)
    · rfl
  rw [C09_targetAccepted, this, Bool.and_false]

/-- Generator variables cannot make anything callable: the accepted targets are decided on the expression and the
    static tables alone, never on the namespace — acceptance does not depend on the state. (The pinned tree
    consulted the live namespace: findings #7c and #16.) -/
theorem C09_acceptance_static (P : Prim) (fuel : Nat) (func : Expr) (args : List Expr)
    (kwargs : List (String × Expr)) (st st' : St) (h : C09_targetAccepted func = false) :
    (interp P (fuel + 1) (.call func args kwargs) st).2 = (interp P (fuel + 1) (.call func args kwargs) st').2 := by
  rw [C09_refusal_first P fuel func args kwargs st h, C09_refusal_first P fuel func args kwargs st' h]

/-- A bare double-underscore *Name* that is not bound in the namespace (`__class__`, `__dict__`, `__import__`, …)
    is refused before the whitelist-module fallback: `InvalidOperation`, state untouched, no `getattr` on
    `dynamic_fieldtype` (finding C09-dunder-name-fallback, fixed by 96248cf: the pinned tree evaluated `__class__`
    to the module's class). -/
theorem C09_dunder_name_refused_first (P : Prim) (fuel : Nat) (id : String) (st : St)
    (hd : hasPrefix "__" id = true) (h : inData st id = false) :
    interp P (fuel + 1) (.name id) st = (st, .error .invalidOp) := by
  simp [interp_succ, evalStep_name, h, hd]

/-- Every other unbound Name reaches the fallback with exactly one `fallback` event and the lookup's own result
    (an unknown name is the lookup's AttributeError); nothing reached this way can be called
    (`C09_calls_allowed`). -/
theorem C09_name_fallback (P : Prim) (fuel : Nat) (id : String) (st : St)
    (hd : hasPrefix "__" id = false) (h : inData st id = false) :
    interp P (fuel + 1) (.name id) st = ({ st with trace := st.trace ++ [.fallback id] }, P.dynft id) := by
  simp [interp_succ, evalStep_name, h, hd, M.log_bind, M.lift]

def C09_recordInvariant (P : Prim) (r0 : PVal) : Invariant P where
  inv s := s.record = r0
  ns_irrel := fun _ _ h => h
  log_ok := fun _ _ h _ => h

/-- Evaluation never modifies the record: the record component of the state after evaluation is the one before
    (the only writes go to the matcher's own namespace and trace). -/
theorem C09_record_unchanged (P : Prim) (fuel : Nat) (e : Expr) (st : St) :
    (interp P fuel e st).1.record = st.record :=
  (pres_interp (C09_recordInvariant P st.record) fuel e st rfl).1

-- Non-vacuity: an adversarial Prim (every attribute is a foreign callable, every call "succeeds"), the four escape
-- shapes of the pinned tree are refused, and an allowed call does produce a call event.
namespace C09_nonvacuous
def adv : Prim :=
  { truthy := fun _ => true, rich := fun _ _ _ => .ok (.bool true), contains := fun _ _ => .ok true,
    is_ := fun _ _ => true, arith := fun _ _ _ => .ok (.foreign 7), getattr := fun _ _ => some (.foreign 666),
    iter := fun v => .ok [v, .foreign 5], call := fun _ _ _ => .ok (.foreign 9), dynft := fun _ => .ok (.foreign 8),
    modattr := fun _ _ => .ok (.foreign 4), tmValues := fun _ _ => [.foreign 3] }
def st0 : St := { ns := [], trace := [], record := .recv "t" [("s", "string", .str "x")] }
def rs : Expr := .attr (.name "r") "s"
/-- (a) `lower(r.s).upper()` -/
example : C09_targetAccepted (.attr (.call (.name "lower") [rs] []) "upper") = false := by decide
/-- (b) `'abc'.upper()` -/
example : C09_targetAccepted (.attr (.const (.str "abc")) "upper") = false := by decide
/-- (c) `f()` for a generator variable `f` -/
example : C09_targetAccepted (.name "f") = false := by decide +kernel
/-- (d) `path()` where `path` is also a generator variable: accepted as the *whitelisted constructor*, resolved
    from the static whitelist module, never from the namespace -/
example : C09_targetAccepted (.name "path") = true := by decide +kernel
example : C09_targetAccepted (.name "upper") = true := by decide
example : C09_targetAccepted (.attr (.attr (.name "net") "ipv4") "Subnet") = true := by decide +kernel
example : C09_targetAccepted (.attr rs "upper") = false := by decide +kernel
example : inData st0 "__class__" = false := by decide
/-- an allowed call is really logged (the invariant is not vacuous) -/
example : (interp adv 5 (.call (.name "upper") [rs] []) st0).1.trace.length = 2 := by decide +kernel
end C09_nonvacuous
