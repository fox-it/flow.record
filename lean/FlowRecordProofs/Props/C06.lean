import FlowRecordProofs.Lemmas.Descriptor
import FlowRecordProofs.Lemmas.Assoc
import FlowRecordProofs.Lemmas.Render
/-!
C06 — descriptor names are validated; untrusted definitions cannot inject code.
Strings are lists of code points (`Str`), so "for all strings" includes control
characters, non-ASCII look-alikes and lone surrogates. The regular expressions, the whitelist, the reserved
fields and the keyword list are the ones extracted from the current source (`Gen`).
-/
open FlowRecord FlowRecord.Descriptor FlowRecord.Rx FlowRecord.Render

/-- `RE_VALID_FIELD_NAME.match(s)` for ALL strings: an optional single underscore, then an ASCII identifier
    that starts with a letter — optionally followed by ONE final newline (Python's `$`, made explicit). -/
theorem C06_field_regex (s : Str) :
    pyMatch Gen.RE_VALID_FIELD_NAME s = true ↔
      ∃ b : Str, (s = b ∨ s = b ++ [10]) ∧ (isIdentL b = true ∨ ∃ l, b = 95 :: l ∧ isIdentL l = true) := by
  -- `_?[a-zA-Z][a-zA-Z0-9_]*`: an identifier, or an underscore and an identifier
  have hl : HasLang (.seq (.opt (.cls [(95, 95)])) (.seq (.cls [(97, 122), (65, 90)])
      (.star (.cls [(97, 122), (65, 90), (48, 57), (95, 95)]))))
      fun w => isIdentL w = true ∨ ∃ l, w = 95 :: l ∧ isIdentL l = true :=
    ((hasLang_cls _).opt.seq hasLang_identL).congr fun w => by
      simp only [clsMem_single, beq_iff_eq]
      constructor
      · rintro ⟨_, v, rfl, rfl | ⟨_, rfl, rfl⟩, hv⟩
        · exact Or.inl hv
        · exact Or.inr ⟨v, rfl, hv⟩
      · rintro (hw | ⟨l, rfl, h⟩)
        · exact ⟨[], w, rfl, Or.inl rfl, hw⟩
        · exact ⟨[95], l, rfl, Or.inr ⟨95, rfl, rfl⟩, h⟩
  unfold Gen.RE_VALID_FIELD_NAME
  -- with `A` the letter, `S` the star: `^(_? (A (S $)))` is regrouped to `^(((_? A) S) $)`; `hl` is about `_? (A S)`
  rw [pyMatch_bol, ends_seq_assoc, ends_seq_assoc, ← pyMatch_bol]
  exact hl.assoc.pyMatch_anchored s

/-- `is_valid_field_name(s)` (the function, with its reserved-name and underscore branches) for ALL strings:
    accepted ⇔ `s` is an ASCII identifier starting with a letter, or such an identifier plus one final newline. -/
theorem C06_field_grammar (s : Str) :
    isValidFieldName s true = true ↔ ∃ b : Str, (s = b ∨ s = b ++ [10]) ∧ isIdentL b = true := by
  rw [isValidFieldName_true, C06_field_regex]
  constructor
  · rintro ⟨-, hu, b, hs, hb | ⟨l, rfl, -⟩⟩
    · exact ⟨b, hs, hb⟩
    · rcases hs with rfl | rfl <;> cases hu
  · rintro ⟨b, hs, hb⟩
    -- a letter is the first character, with or without the newline; every reserved name starts with an underscore
    have hu : startsWithUnderscore s = false := by
      obtain ⟨y, t, rfl, hy, -⟩ := (isIdentL_iff b).mp hb
      have : (y == 95) = false := beq_false_of_ne (ne_of_class hy rfl)
      rcases hs with rfl | rfl <;> exact this
    exact ⟨fun hr => Bool.noConfusion ((reservedNames_facts.2 s hr).1.symm.trans hu), hu, b, hs, Or.inl hb⟩

/-- With `check_reserved=False` (as `RecordField` calls it) the reserved names are admitted in addition. -/
theorem C06_field_grammar_unreserved (s : Str) :
    isValidFieldName s false = true ↔
      s ∈ reservedNames ∨ ∃ b : Str, (s = b ∨ s = b ++ [10]) ∧ isIdentL b = true := by
  rw [← C06_field_grammar, isValidFieldName_eq, isValidFieldName_eq]
  by_cases hr : s ∈ reservedNames <;> simp [hr]

/-- `RE_VALID_RECORD_TYPE_NAME.match(s)` for ALL strings: a slash-separated sequence of ASCII identifiers
    each starting with a letter — optionally followed by ONE final newline. -/
theorem C06_type_grammar (s : Str) :
    isValidTypeName s = true ↔ ∃ b : Str, (s = b ∨ s = b ++ [10]) ∧ isSlashIdents b = true := by
  -- the group `/[a-zA-Z][a-zA-Z0-9_]*`: a slash and an identifier
  have hg : HasLang (.seq (.cls [(47, 47)]) (.seq (.cls [(97, 122), (65, 90)])
      (.star (.cls [(97, 122), (65, 90), (48, 57), (95, 95)])))) fun w => ∃ g, w = 47 :: g ∧ isIdentL g = true :=
    ((hasLang_cls _).seq hasLang_identL).congr fun w => by
      simp only [clsMem_single, beq_iff_eq]
      exact ⟨fun ⟨_, g, hw, ⟨_, rfl, rfl⟩, hg⟩ => ⟨g, hw, hg⟩, fun ⟨g, hw, hg⟩ => ⟨[47], g, hw, ⟨47, rfl, rfl⟩, hg⟩⟩
  -- an identifier, then any number of groups
  have hl : HasLang _ fun w => isSlashIdents w = true := (hasLang_identL.seq hg.star_image).congr fun w => by
    rw [isSlashIdents_iff]
    exact ⟨fun ⟨seg, _, hw, h0, segs, hv, hs⟩ => ⟨seg, segs, hv ▸ hw, h0, hs⟩,
      fun ⟨seg, segs, hw, h0, hs⟩ => ⟨seg, _, hw, h0, segs, rfl, hs⟩⟩
  unfold isValidTypeName Gen.RE_VALID_RECORD_TYPE_NAME
  -- with `G` the group: `^(A (S (G* $)))` is regrouped to `^(((A S) G*) $)`, the grouping `hl` has
  rw [pyMatch_bol, ends_seq_assoc, ends_seq_assoc, ← pyMatch_bol]
  exact hl.pyMatch_anchored s

/-- The `$` artefact, explicit: a name with one trailing newline passes both validators although it is not
    an identifier (the generated class source is then refused by CPython; enumerated by the harness). -/
theorem C06_newline_artefact :
    isValidFieldName [97, 10] true = true ∧ isIdent [97, 10] = false ∧
    isValidTypeName [116, 47, 120, 10] = true ∧ isSlashIdents [116, 47, 120, 10] = false ∧
    isValidFieldName [97, 10, 10] true = false ∧ isValidFieldName [10, 97] true = false ∧
    isValidFieldName [97, 13] true = false := by decide +kernel

/-- Full-strength claim "what the validators accept is an identifier" — false because of `$`. -/
def C06_validated_is_identifier_statement : Prop :=
  ∀ s : Str, (isValidFieldName s true = true → isIdentL s = true) ∧ (isValidTypeName s = true → isSlashIdents s = true)

theorem C06_validated_is_identifier_counterexample : ¬ C06_validated_is_identifier_statement := by
  intro h
  have := (h [97, 10]).1 ((C06_field_grammar _).mpr ⟨[97], Or.inr rfl, rfl⟩)
  revert this; decide

/-- … and it holds for every string that does not end in a newline. -/
theorem C06_validated_is_identifier_partial (s : Str) (hnl : s.getLast? ≠ some 10) :
    (isValidFieldName s true = true → isIdentL s = true) ∧ (isValidTypeName s = true → isSlashIdents s = true) := by
  have strip : ∀ (b : Str), (s = b ∨ s = b ++ [10]) → s = b := by
    rintro b (h | h)
    · exact h
    · exact absurd (by rw [h]; simp) hnl
  constructor
  · intro h
    obtain ⟨b, hs, hb⟩ := (C06_field_grammar s).mp h
    rw [strip b hs]; exact hb
  · intro h
    obtain ⟨b, hs, hb⟩ := (C06_type_grammar s).mp h
    rw [strip b hs]; exact hb

/-- Character set: every name either validator accepts consists of `[A-Za-z0-9_/]` plus at most one final
    newline. -/
theorem C06_charset (s : Str) (h : isValidFieldName s true = true ∨ isValidTypeName s = true) :
    ∃ body : Str, (s = body ∨ s = body ++ [10]) ∧ body.all isNameChar = true := by
  rcases h with h | h
  · obtain ⟨b, hs, hb⟩ := (C06_field_grammar s).mp h
    exact ⟨b, hs, isIdentL_nameChars hb⟩
  · obtain ⟨b, hs, hb⟩ := (C06_type_grammar s).mp h
    exact ⟨b, hs, isSlashIdents_nameChars hb⟩

/-- Hence no delimiter of Python source can come out of a validated name: no quote, bracket, brace, paren,
    colon, dot, comma, space, tab, CR, semicolon, `#`, `=`, `@` or backslash. -/
theorem C06_no_delimiters (s : Str) (h : isValidFieldName s true = true ∨ isValidTypeName s = true) :
    ∀ c ∈ s, c ∉ [34, 39, 40, 41, 91, 93, 123, 125, 58, 46, 44, 32, 9, 13, 59, 35, 61, 64, 92, 0] := by
  obtain ⟨body, hs, hb⟩ := C06_charset s h
  intro c hc hmem
  have hn : isNameChar c = true ∨ c = 10 := by
    rcases hs with rfl | rfl
    · exact Or.inl (List.all_eq_true.mp hb c hc)
    · exact (List.mem_append.mp hc).imp (List.all_eq_true.mp hb c) List.mem_singleton.mp
  -- none of the twenty is a name character or the newline
  clear hc
  revert c
  decide

/-- Whitelist before resolution: `fieldtype` answers only for whitelisted (list-stripped) paths, and on the
    rejecting path it has performed no import and no getattr at all. -/
theorem C06_whitelist_first (t : Str) :
    (∀ ft, (fieldtype t).2 = .ok ft → stripList t ∈ whitelist ∧ ft.base = stripList t ∧ ft.isList = isListForm t) ∧
    (stripList t ∉ whitelist → fieldtype t = ([], .error .invalidFieldType)) := by
  refine ⟨fun ft hft => ?_, fieldtype_refused⟩
  by_cases h : stripList t ∈ whitelist
  · rw [fieldtype_resolved h] at hft
    cases hft
    exact ⟨h, rfl, rfl⟩
  · rw [fieldtype_refused h] at hft
    cases hft

/-- Every module the constructor imports while resolving field types is `flow.record.fieldtypes` or
    `flow.record.fieldtypes.<namespace of a whitelist entry>` — for every definition, accepted or not. -/
theorem C06_imports_whitelisted (d : Desc) :
    ∀ p, Effect.importModule p ∈ (construct d).1 →
      p = baseModule ∨ ∃ w ∈ whitelist, p = baseModule ++ [46] ++ (rpartitionDot w).1 := by
  intro p hp
  obtain ⟨f, -, hp⟩ := mem_resolveFields_fst (mem_construct_fst hp)
  by_cases h : stripList f.1 ∈ whitelist
  · rw [fieldtype_resolved h] at hp
    simp only [List.mem_append, List.mem_cons, Effect.importModule.injEq, reduceCtorEq, List.not_mem_nil, or_false] at hp
    rcases hp with rfl | hp
    · split
      · exact Or.inl rfl
      · exact Or.inr ⟨_, h, rfl⟩
    · split at hp
      · exact Or.inl (by simpa using hp)
      · cases hp
  · rw [fieldtype_refused h] at hp
    cases hp

/-- A definition is accepted ONLY IF its name is a slash-separated sequence of ASCII identifiers, every field
    name is an ASCII identifier not starting with an underscore, and every field type is whitelisted
    (optionally in list form). (The newline artefact is excluded by `execOk`: CPython refuses that source.) -/
theorem C06_accepted_only_if (d : Desc) (h : accepts d = true) :
    isSlashIdents d.name = true ∧
    (∀ f ∈ d.fields, isIdentL f.2 = true ∧ f.2 ∉ reservedNames ∧ stripList f.1 ∈ whitelist) := by
  obtain ⟨sl, hsl⟩ := construct_of_accepts h
  obtain ⟨-, hfn, hwl, htn, hex, -⟩ := construct_ok hsl
  simp only [execOk, Bool.and_eq_true, Bool.not_eq_true', List.all_eq_true] at hex
  -- CPython has refused every name with a newline, so the `$` artefact is gone
  have nonl : ∀ s : Str, s.contains 10 = false → s.getLast? ≠ some 10 := fun s hc e =>
    absurd (List.mem_of_getLast? e) (by simpa using hc)
  exact ⟨(C06_validated_is_identifier_partial _ (nonl _ hex.1.1)).2 htn, fun f hf =>
    ⟨(C06_validated_is_identifier_partial _ (nonl _ (hex.1.2 f hf))).1 (hfn f hf),
      ((isValidFieldName_true f.2).mp (hfn f hf)).1, hwl f hf⟩⟩

/-- An accepted definition yields a record class with exactly the declared field names (each once, in order of
    first appearance) followed by the reserved metadata fields; with pairwise distinct declared names:
    exactly `fields ++ RESERVED_FIELDS`. -/
theorem C06_fields_exact (d : Desc) (sl : List Str) (h : (construct d).2 = .ok sl) :
    sl = firstOcc (d.fields.map (·.2)) ++ reservedNames ∧
    ((d.fields.map (·.2)).Nodup → sl = d.fields.map (·.2) ++ reservedNames) := by
  obtain ⟨-, hfn, -, -, -, rfl⟩ := construct_ok h
  have main : slots d = firstOcc (d.fields.map (·.2)) ++ reservedNames := (slots_eq_keys d).trans <|
    keys_allFields d fun n hn => by
      obtain ⟨f, hf, rfl⟩ := List.mem_map.mp hn
      exact ((isValidFieldName_true f.2).mp (hfn f hf)).1
  exact ⟨main, fun hnd => by rw [main, firstOcc_nodup_eq _ hnd]⟩

/-- THE TEXT HANDED TO `exec` IS THE TEMPLATE FILLED WITH IDENTIFIERS. For an accepted definition the rendered class
    source is the shape-only template (a function of the number of slots and of "some field is a keyword" alone)
    instantiated with the slot names and the class name — each a non-empty string of `[A-Za-z0-9_]` —, the final tab
    replacement touching literal template text only. (That `render` is the text `exec` receives is checked on every
    run by capturing it from the real code.) -/
theorem C06_render_is_template (d : Desc) (h : accepts d = true) :
    render d = inst (envOf (slots d)) (className d.name)
      ((tmplOf (slots d).length (containsKeyword d)).map tabTok) ∧
    good (className d.name) ∧ ∀ i, good (envOf (slots d) i) := by
  obtain ⟨hname, hfields⟩ := C06_accepted_only_if d h
  have henv := envOf_good d fun f hf => ⟨(hfields f hf).1, (hfields f hf).2.1⟩
  have hcls := className_good d.name hname
  exact ⟨replaceTabs_inst _ _ henv hcls _, hcls, henv⟩

/-- NO CODE CAN BE INJECTED THROUGH A DEFINITION: two accepted definitions of the same shape (same number of slots,
    same keyword path) — e.g. a hostile one and the same shape with canonical identifiers — give sources with the SAME
    skeleton: outside maximal runs of `[A-Za-z0-9_]` the two texts are identical character by character. No quote,
    bracket, colon, dot, newline, space, `#`, … can come from a definition. -/
theorem C06_render_skeleton (d d' : Desc) (h : accepts d = true) (h' : accepts d' = true)
    (hshape : (slots d).length = (slots d').length ∧ containsKeyword d = containsKeyword d') :
    skel false (render d) = skel false (render d') := by
  obtain ⟨e, hcls, henv⟩ := C06_render_is_template d h
  obtain ⟨e', hcls', henv'⟩ := C06_render_is_template d' h'
  rw [e, e', hshape.1, hshape.2]
  exact skel_inst _ _ _ _ henv henv' hcls hcls' _ false

/-- The source has the shape the model transcribes: order of the tests in `is_valid_field_name`,
    `RecordField.__init__`, `fieldtype()` (whitelist test before `import_module`/`getattr`) and
    `_generate_record_class` (all validation before `exec`), a single `exec(code, _globals)`. Re-decided on every
    run against the statements extracted from the working tree. -/
theorem C06_source_shape :
    Gen.fieldNameChecks =
      ["if check_reserved: if name in RESERVED_FIELDS: return False elif name in RESERVED_FIELDS: return True",
       "if name.startswith('_'): return False", "if not RE_VALID_FIELD_NAME.match(name): return False", "return True"] ∧
    Gen.recordFieldInit.head? =
      some "if not is_valid_field_name(name, check_reserved=False): raise RecordDescriptorError('Invalid field name: {}'.format(name))" ∧
    Gen.recordFieldInit.getLast? = some "self.type = fieldtype(typename)" ∧
    Gen.fieldtypeSteps.take 6 =
      ["base_module_path = 'flow.record.fieldtypes'",
       "if clspath.endswith('[]'): origpath = clspath clspath = clspath[:-2] islist = True else: islist = False",
       "if clspath not in WHITELIST: raise AttributeError('Invalid field type: {}'.format(clspath))",
       "namespace, _, clsname = clspath.rpartition('.')",
       "module_path = f'{base_module_path}.{namespace}' if namespace else base_module_path",
       "mod = importlib.import_module(module_path)"] ∧
    Gen.genClassOrder = ["is_valid_field_name", "RecordField", "RE_VALID_RECORD_TYPE_NAME.match", "name.replace",
       "RECORD_CLASS_TEMPLATE.format", "exec"] ∧
    Gen.genClassExecCall = "exec(code, _globals)" ∧ Gen.descriptorInitFirstTest = "not name" ∧
    Gen.genClassKeywordTest = "len(all_fields) >= 255 and (not sys.version_info >= (3, 7)) or contains_keyword" ∧
    Gen.tplReplaceFrom = "\t" ∧ Gen.execGlobals = ["Record", "RECORD_VERSION", "_utcnow", "_zip_longest"] ∧
    Gen.execGlobalFieldPrefix = "_field_" :=
  ⟨rfl, rfl, rfl, rfl, rfl, rfl, rfl, rfl, rfl, rfl, rfl⟩

/-- Whitelist entries and reserved names are themselves well-formed (sanity of the extracted tables): every
    reserved name is `_` + identifier, passes `check_reserved=False`; no whitelist entry ends in `[]`. -/
theorem C06_tables_wellformed :
    (∀ r ∈ reservedNames, isValidFieldName r false = true ∧ isValidFieldName r true = false ∧ isIdent r = true) ∧
    (∀ w ∈ whitelist, isListForm w = false ∧ (fieldtype w).2 = .ok ⟨w, false⟩ ∧
      (fieldtype (w ++ [91, 93])).2 = .ok ⟨w, true⟩) := by
  have hid : ∀ r ∈ reservedNames, isIdent r = true := by
    intro r hr
    obtain ⟨hu, hne, hall⟩ := reservedNames_facts.2 r hr
    cases r with
    | nil => exact absurd rfl hne
    | cons c cs =>
      simp only [List.all_cons, Bool.and_eq_true] at hall
      simp [isIdent, isIdentStart, show (c == 95) = true from hu, hall.2]
  have hl : ∀ w ∈ whitelist, isListForm w = false := by
    simp only [whitelist, Gen.WHITELIST, List.map]
    repeat rw [cps_ofList]
    decide +kernel
  refine ⟨fun r hr => ⟨by simp [isValidFieldName_eq, hr], by simp [isValidFieldName_eq, hr], hid r hr⟩, fun w hw => ?_⟩
  refine ⟨hl w hw, ?_, ?_⟩
  · rw [fieldtype_resolved (by rwa [stripList_eq_self (hl w hw)]), stripList_eq_self (hl w hw), hl w hw]
  · rw [fieldtype_resolved (by rwa [stripList_append]), stripList_append, isListForm_append]

-- Non-vacuity: concrete definitions on both sides of every theorem (literals handed over by `cps_ofList`).
namespace C06_nonvacuous
def good : Desc := ⟨cps "test/a", [(cps "string", cps "name"), (cps "varint[]", cps "n_1"), (cps "net.ipaddress", cps "from")]⟩
/-- The test vectors of `construct`, in one evaluation: most of the work on each is decoding the whitelist, the keyword
    list and the reserved fields (they are inside `construct`, out of reach of `cps_ofList`), and within one declaration
    the kernel decodes them once. -/
theorem construct_vectors :
    construct good =
      ([.importModule (cps "flow.record.fieldtypes"), .getattr (cps "string"),
        .importModule (cps "flow.record.fieldtypes"), .getattr (cps "varint"), .importModule (cps "flow.record.fieldtypes"),
        .importModule (cps "flow.record.fieldtypes.net"), .getattr (cps "ipaddress")],
       .ok [cps "name", cps "n_1", cps "from", cps "_source", cps "_classification", cps "_generated", cps "_version"]) ∧
    construct ⟨cps "test/a", [(cps "os.system", cps "x")]⟩ = ([], .error .invalidFieldType) ∧
    construct ⟨cps "test/a", [(cps "string", cps "x: int = __import__('os')")]⟩ = ([], .error .invalidFieldName) ∧
    (construct ⟨cps "a(object):\n  pass\nclass b", [(cps "string", cps "x")]⟩).2 = .error .invalidTypeName ∧
    (construct ⟨cps "test/a\n", [(cps "string", cps "x")]⟩).2 = .error .execFails ∧
    (construct ⟨cps "class", [(cps "string", cps "x")]⟩).2 = .error .execFails ∧
    (construct ⟨cps "t", [(cps "string", cps "a"), (cps "varint", cps "a")]⟩).2 =
      .ok [cps "a", cps "_source", cps "_classification", cps "_generated", cps "_version"] := by
  unfold good
  repeat rw [cps_ofList]
  decide +kernel
example : (construct good).2 = .ok [cps "name", cps "n_1", cps "from", cps "_source", cps "_classification",
    cps "_generated", cps "_version"] := congrArg Prod.snd construct_vectors.1
example : (construct good).1 = [.importModule (cps "flow.record.fieldtypes"), .getattr (cps "string"),
    .importModule (cps "flow.record.fieldtypes"), .getattr (cps "varint"), .importModule (cps "flow.record.fieldtypes"),
    .importModule (cps "flow.record.fieldtypes.net"), .getattr (cps "ipaddress")] := congrArg Prod.fst construct_vectors.1
example : construct ⟨cps "test/a", [(cps "os.system", cps "x")]⟩ = ([], .error .invalidFieldType) :=
  construct_vectors.2.1
example : construct ⟨cps "test/a", [(cps "string", cps "x: int = __import__('os')")]⟩ = ([], .error .invalidFieldName) :=
  construct_vectors.2.2.1
example : (construct ⟨cps "a(object):\n  pass\nclass b", [(cps "string", cps "x")]⟩).2 = .error .invalidTypeName :=
  construct_vectors.2.2.2.1
example : (construct ⟨cps "test/a\n", [(cps "string", cps "x")]⟩).2 = .error .execFails :=
  construct_vectors.2.2.2.2.1
example : (construct ⟨cps "class", [(cps "string", cps "x")]⟩).2 = .error .execFails :=
  construct_vectors.2.2.2.2.2.1
example : (construct ⟨cps "t", [(cps "string", cps "a"), (cps "varint", cps "a")]⟩).2 =
    .ok [cps "a", cps "_source", cps "_classification", cps "_generated", cps "_version"] :=
  construct_vectors.2.2.2.2.2.2
example : isValidFieldName (cps "ｎame") true = false := by   -- fullwidth look-alike
  repeat rw [cps_ofList]
  decide +kernel
example : isValidFieldName [97, 0xDC80] true = false := by decide +kernel     -- lone surrogate
example : skel false (render good) = skel false (render ⟨cps "x", [(cps "string", cps "a"), (cps "varint[]", cps "b"), (cps "net.ipaddress", cps "if")]⟩) := by
  -- one evaluation for the three premises: they share the decoding of the tables
  exact And.elim (fun h r => And.elim (fun h' hs => C06_render_skeleton _ _ h h' hs) r) (by decide +kernel)
end C06_nonvacuous
