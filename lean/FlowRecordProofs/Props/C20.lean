import FlowRecordProofs.Lemmas.Csv
import FlowRecordProofs.Lemmas.TextOut
/-!
C20 — text-oriented writers render every record completely.

`writeRow`/`parse` model CPython 3.12's `csv.writer`/`csv.reader` (excel dialect, QUOTE_MINIMAL) and are validated
against the `csv` module by harness/props/C20.py; per-type `str`/`repr` of values are inputs of the model
(hypothesis `CsvLaws`/CPython in the harness' TRUSTED list), so every theorem below is about *arbitrary* cell text.
-/
open FlowRecord FlowRecord.Csv FlowRecord.TextOut

/-- CSV_roundtrip. For ALL rows of arbitrary cells (any code points, any lengths, incl. empty rows and the lone
    empty cell), every delimiter that is not the quote char or a line break, and every line terminator among
    `\r\n`, `\n`, `\r` such that every CR/LF occurring in a cell is a character of the terminator: a standard
    CSV parser reading what `csv.writer` wrote recovers exactly the rows, without error. -/
theorem C20_csv_roundtrip (d : Ch) (hd : DelimOk d) (lt : List Ch) (hlt : LtOk lt) (rows : List Row)
    (hsafe : ∀ row ∈ rows, ∀ c ∈ row, SafeCell lt c) :
    parse d (writeRows d lt rows) = (rows, false) := by
  have hb := run_writeRows hd hlt (o := []) (.inl rfl) hsafe
  rw [parse, finish_between hb]
  simp [clean]

/-- The property as C20 states it for the CSV writer: for each of the documented line terminators and whatever
    characters the cells contain, a standard parser recovers the cells exactly. -/
def C20_csv_statement : Prop :=
  ∀ lt : List Ch, LtOk lt → ∀ rows : List Row, parse COMMA (writeRows COMMA lt rows) = (rows, false)

/-- The full statement is FALSE of the model (and of the code, replayed by the harness): with the documented
    option `lineterminator=\n` the cell `a\rb` is written bare (CPython quotes only characters of the configured
    terminator) and the parser splits the row in two. -/
theorem C20_csv_counterexample : ¬ C20_csv_statement := by
  intro h
  have := h [LF] (Or.inr (Or.inl rfl)) [[[97, 13, 98]]]
  revert this
  decide

/-- What does hold, with exactly the finding's signature excluded: with the default terminator `\r\n` every row
    list round-trips; with `\n` (resp. `\r`) every row list whose cells contain no `\r` (resp. `\n`) does. -/
theorem C20_csv_partial (lt : List Ch) (hlt : LtOk lt) (rows : List Row)
    (h : lt = [CR, LF] ∨ ∀ row ∈ rows, ∀ c ∈ row, ∀ x ∈ c, (x = CR ∨ x = LF) → x ∈ lt) :
    parse COMMA (writeRows COMMA lt rows) = (rows, false) := by
  apply C20_csv_roundtrip COMMA ⟨by decide, by decide, by decide⟩ lt hlt rows
  rcases h with h | h
  · subst h
    intro row _ c _ x _ hx
    rcases hx with hx | hx <;> subst hx <;> simp
  · exact h

/-- Header on descriptor change: for every record sequence the rows the CSV writer emits are, per maximal run of
    records of one descriptor, a header row of the selected field names (taken from the run's first record) followed
    by one row per record; the runs partition the sequence in order, are non-empty, uniform and maximal. -/
theorem C20_csv_structure (sel : Sel) (recs : List Rec) :
    csvRows sel none recs = (runs recs).flatMap (runRows sel) ∧
    (runs recs).flatten = recs ∧
    (∀ g ∈ runs recs, g ≠ [] ∧ ∀ a ∈ g, ∀ b ∈ g, a.desc = b.desc) ∧
    AdjDiff (runs recs) :=
  ⟨csvRows_runs sel recs, runs_spec recs⟩

/-- The file `CsvfileWriter` writes with its default line terminator (as extracted from the source), read by a
    standard parser, is exactly header + rows per run — for all records, whatever text their values have. -/
theorem C20_csv_file_default (sel : Sel) (recs : List Rec) :
    parse COMMA (csvFile sel none recs) = ((runs recs).flatMap (runRows sel), false) := by
  have hlt : lineTerminator none = [CR, LF] := by decide
  unfold csvFile
  rw [hlt, C20_csv_partial [CR, LF] (Or.inl rfl) _ (Or.inl rfl), csvRows_runs]

/-- With another accepted terminator the same holds whenever no selected value (or field name) contains a line-break
    character foreign to the terminator. -/
theorem C20_csv_file (sel : Sel) (lt : List Ch) (hlt : LtOk lt) (recs : List Rec)
    (h : ∀ row ∈ csvRows sel none recs, ∀ c ∈ row, SafeCell lt c) :
    parse COMMA (writeRows COMMA lt (csvRows sel none recs)) = ((runs recs).flatMap (runRows sel), false) := by
  rw [C20_csv_partial lt hlt _ (Or.inr h), csvRows_runs]

/-- Field selection: without `fields` the selected entries are the slots (declared, then reserved) minus `exclude`,
    in slot order; every selected entry is a slot of the record and not excluded — no field is invented or duplicated
    by the header/row pair (header and cells come from the same selection, so they have equal length). -/
theorem C20_asdict (sel : Sel) (r : Rec) :
    (header sel r).length = (cells sel r).length ∧
    (asdict none sel.exclude r.slots = r.slots.filter (fun p => !sel.exclude.contains p.1)) ∧
    (∀ p ∈ asdict sel.fields sel.exclude r.slots, p ∈ r.slots ∧ sel.exclude.contains p.1 = false) :=
  ⟨by simp [header, cells], rfl, asdict_sub sel.fields sel.exclude r.slots⟩

/-- CSV files read back with the same text values: for every delimiter the sniffer may find, a file holding a header
    of distinct field names (none starting with `_`) and rows of that many arbitrary cells is read by `CsvfileReader`
    as exactly those fields and, per row, exactly those cell texts — quoting is undone for all cell contents. -/
theorem C20_csv_read (d : Ch) (hd : DelimOk d) (lt : List Ch) (hlt : LtOk lt) (hdr : List Name) (rows : List Row)
    (hsafe : ∀ row ∈ hdr :: rows, ∀ c ∈ row, SafeCell lt c)
    (hnames : ∀ n ∈ hdr, n.head? ≠ some 95) (hnodup : hdr.Nodup) (hlen : ∀ row ∈ rows, row.length = hdr.length) :
    csvRead d (writeRows d lt (hdr :: rows)) = some (hdr, rows.map (fun row => row.map some)) := by
  have hfilter : hdr.filter (fun n => n.head? != some 95) = hdr := by
    apply List.filter_eq_self.mpr
    intro n hn
    simpa using hnames n hn
  simp only [csvRead, C20_csv_roundtrip d hd lt hlt (hdr :: rows) hsafe, hfilter]
  congr 2
  apply List.map_congr_left
  intro row hrow
  exact zip_lookup hnodup (hlen row hrow)

/-- Line writer: block k (counting from 1) is the record's block numbered k — the counter fold has the closed
    form "k-th record gets number k" for every record sequence. -/
theorem C20_line (sel : Sel) (verbose : Bool) (recs : List Rec) :
    lineOut sel verbose 0 recs = recs.zipIdx.flatMap (fun p => lineBlock sel verbose (p.2 + 1) p.1) :=
  lineOut_closed sel verbose recs 0

/-- A block is its numbered header followed by exactly one `name = value` entry per selected field, in selection
    order, and all `=` signs of a block are aligned: every entry's key column is exactly the block width. -/
theorem C20_line_block (sel : Sel) (verbose : Bool) (k : Nat) (r : Rec) :
    let rdict := asdict sel.fields sel.exclude r.slots
    let w := width verbose r rdict
    lineBlock sel verbose k r
      = lineHeader k ++ rdict.flatMap (fun p => padLeft w (keyText verbose r p.1) ++ ofString " = " ++ p.2 ++ [LF]) ∧
    ∀ p ∈ rdict, (padLeft w (keyText verbose r p.1)).length = w := by
  intro rdict w
  refine ⟨rfl, ?_⟩
  intro p hp
  apply padLeft_length
  cases verbose with
  | false => exact le_maxList (List.mem_map.mpr ⟨p, hp, rfl⟩)
  | true =>
    simp only [w, width, keyText, if_true]
    have := le_maxList ((List.mem_map (f := fun q : Name × Cell => (q.1 ++ typeOf r q.1).length)).mpr ⟨p, hp, rfl⟩)
    have e1 : (ofString Gen.lineVerboseOpen).length = 2 := by decide
    have e2 : (ofString Gen.lineVerboseClose).length = 1 := by decide
    have e3 : Gen.lineVerboseWidthExtra = 3 := by decide
    simp only [List.length_append, e1, e2, e3] at this ⊢
    omega

/-- Text writer with a template: for EVERY template (any literal text incl. braces, any sequence of placeholders
    whose names are plain keys) the output is the template with every known field substituted by the text of its
    value and every unknown placeholder kept verbatim (`DefaultMissing`), nothing else changed. -/
theorem C20_text (lk : Name → Option Cell) (ps : List Piece) (h : PiecesOk ps) :
    formatMap lk (unparse ps) = .ok (ps.flatMap (expand lk)) ∧
    (∀ n v, lk n = some v → expand lk (.field n) = v) ∧
    (∀ n, lk n = none → expand lk (.field n) = LBRACE :: (n ++ [RBRACE])) := by
  refine ⟨?_, ?_, ?_⟩
  · have := frun_unparse lk ps [] h
    simp [formatMap, fstart, this]
  · intro n v hv; simp [expand, expandName, hv]
  · intro n hn
    have : ofString Gen.textMissingWrap = [LBRACE, RBRACE] := by decide
    simp [expand, expandName, hn, missingText, this]

/-- Text writer without a template writes `repr(record)` and a newline, and `repr` has the shape
    `<name k1=v1 k2=v2 ...>` over the declared fields in order (format strings as extracted). -/
theorem C20_text_repr (lk : Name → Option Cell) (name : Name) (k1 v1 k2 v2 : List Ch) (reprText : List Ch) :
    textRecord none lk reprText = .ok (reprText ++ [LF]) ∧
    reprRecord name [] = ofString "<" ++ name ++ ofString " >" ∧
    reprRecord name [(k1, v1), (k2, v2)]
      = ofString "<" ++ name ++ ofString " " ++ k1 ++ ofString "=" ++ v1 ++ ofString " " ++ k2 ++ ofString "=" ++ v2
        ++ ofString ">" := by
  refine ⟨rfl, ?_, ?_⟩
  · simp only [reprRecord_eq, List.map, TextOut.joinWith, List.append_nil, List.append_assoc]
    rfl
  · simp only [reprRecord_eq, List.map, TextOut.joinWith, List.append_assoc]

/-- Inst: the shapes the models transcribe are the ones in the source now (regenerated on every run): `DictWriter`
    receives only `lineterminator` (so: excel dialect, `,`, `"`, QUOTE_MINIMAL), the default terminator and the
    escape table, files are opened with `newline=""` and `errors="surrogateescape"` for writing and reading, the
    header test, `_asdict`, the line writer's and `__repr__`'s format strings. -/
theorem C20_inst :
    Gen.csvDictWriterArgs = ["self.fp", "rdict"] ∧
    Gen.csvDictWriterKwargs = [("lineterminator", "self.lineterminator")] ∧
    Gen.csvDefaultLineTerminator = "\r\n" ∧
    Gen.csvLineTerminatorEscapes = [("\\r", "\r"), ("\\n", "\n"), ("\\t", "\t")] ∧
    Gen.csvWriterOpenMode = "w" ∧ Gen.csvWriterOpenNewline = "" ∧ Gen.csvWriterOpenErrors = "surrogateescape" ∧
    Gen.csvReaderOpenNewline = "" ∧ Gen.csvReaderOpenErrors = "surrogateescape" ∧
    Gen.csvReaderFieldSteps = ["self.fields = fields.split(',')", "self.fields = next(self.reader)",
      "self.fields = [normalize_fieldname(col) for col in self.fields]",
      "self.desc = RecordDescriptor('csv/reader', [('string', col) for col in self.fields if not col.startswith('_')])"] ∧
    Gen.csvHeaderTest = "not self.desc or self.desc != r._desc" ∧
    Gen.csvHeaderBody = ["self.desc = r._desc",
      "self.writer = csv.DictWriter(self.fp, rdict, lineterminator=self.lineterminator)",
      "self.writer.writeheader()"] ∧
    Gen.csvWriteBody = ["rdict = r._asdict(fields=self.fields, exclude=self.exclude)", "self.writer.writerow(rdict)"] ∧
    Gen.asdictBody = ["exclude = exclude or []",
      "if fields:\n    return OrderedDict(((k, getattr(self, k)) for k in fields if k in self.__slots__ and k not in exclude))",
      "return OrderedDict(((k, getattr(self, k)) for k in self.__slots__ if k not in exclude))"] ∧
    Gen.lineHeaderPrefix = "--[ RECORD " ∧ Gen.lineHeaderSuffix = " ]--\n" ∧ Gen.lineEntryAlign = ">" ∧
    Gen.lineEntrySep = " = " ∧ Gen.lineEntryEnd = "\n" ∧ Gen.lineWidthPlain = "max((len(k) for k in rdict))" ∧
    Gen.lineCountIncrement = "self.count += 1" ∧
    Gen.lineEncodeCalls = ["fmt.format(key, value).encode(errors='surrogateescape')"] ∧
    Gen.textReplaceList = [("\\r", "\r"), ("\\n", "\n"), ("\\t", "\t")] ∧
    Gen.textWriteBody = ["if self.format_spec:\n    buf = self.format_spec.format_map(DefaultMissing(rec._asdict()))\nelse:\n    buf = repr(rec)",
      "self.fp.write(buf.encode(errors='surrogateescape') + b'\\n')"] ∧
    Gen.reprOuterFormat = "<{} {}>" ∧ Gen.reprOuterArg0 = "self._desc.name" ∧ Gen.reprItemFormat = "{}={!r}" ∧
    Gen.reprItemArgs = ["k", "getattr(self, k)"] ∧ Gen.reprIterates = "self._desc.fields" :=
  ⟨rfl, rfl, rfl, rfl, rfl, rfl, rfl, rfl, rfl, rfl, rfl, rfl, rfl, rfl, rfl, rfl, rfl, rfl, rfl, rfl, rfl, rfl, rfl, rfl, rfl, rfl, rfl, rfl, rfl⟩

namespace C20_nonvacuous
def hello : Cell := ofString "he said \"hi\", twice\r\nbye"
example : parse COMMA (writeRows COMMA [CR, LF] [[hello, [], ofString "x"], [], [[]]]) =
    ([[hello, [], ofString "x"], [], [[]]], false) := by
  unfold hello ofString
  repeat rw [String.toList_ofList]
  decide +kernel
example : writeRow COMMA [LF] [ofString "a\rb", ofString "c\nd"] = ofString "a\rb,\"c\nd\"\n" := by
  unfold ofString
  repeat rw [String.toList_ofList]
  decide
example : parse COMMA (ofString "a\rb\n") = ([[ofString "a"], [ofString "b"]], false) := by
  unfold ofString
  repeat rw [String.toList_ofList]
  decide
example : SafeCell [LF] (ofString "two\nlines") := by
  unfold ofString
  repeat rw [String.toList_ofList]
  decide
example : PiecesOk [.lit (ofString "{x} "), .field (ofString "name"), .field (ofString "nope")] :=
  ⟨⟨by decide, by decide, by decide⟩, ⟨by decide, by decide, by decide⟩, trivial⟩
example : formatMap (fun n => if n = ofString "name" then some (ofString "V") else none)
    (ofString "{{x}} {name}{nope}") = .ok (ofString "{x} V{nope}") := by
  unfold ofString
  repeat rw [String.toList_ofList]
  rfl
def r1 : Rec := ⟨ofString "t/a", [(ofString "string", ofString "s")], [(ofString "s", ofString "v1")]⟩
def r2 : Rec := ⟨ofString "t/b", [(ofString "string", ofString "s")], [(ofString "s", ofString "v2")]⟩
example : csvRows ⟨none, []⟩ none [r1, r1, r2, r1] =
    [[ofString "s"], [ofString "v1"], [ofString "v1"], [ofString "s"], [ofString "v2"], [ofString "s"], [ofString "v1"]] := by
  decide +kernel
end C20_nonvacuous
