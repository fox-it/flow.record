import FlowRecordProofs.Lemmas.SelectorCompiled
import FlowRecord.Gen.Pipeline
/-!
C07 — both selector engines compute the Python meaning of the expression.

`interp` / `interpMatch` (Model/Selector/Interp.lean) is `RecordContextMatcher._eval` transcribed branch by branch,
with every operator looked up in the tables generated from the current source. `refEval` / `refMatch`
(Model/Selector/Ref.lean) is Python's evaluation written down directly over the documented operator set.
Both are parametric in the primitives `Prim`; every theorem holds for **every** `Prim`, every record, every fuel
(= nesting depth explored), and expressions of unbounded depth and width (structural `Supported`).
-/
open FlowRecord FlowRecord.Selector

/-- **Main theorem.** For every supported expression: whenever the Python meaning is anything but `undefined`
    (a sub-expression is not defined on this record: missing attribute, the missing-field sentinel reaching
    arithmetic/membership, a typed matcher on the left of `in` — C08's territory) or a NoneType-TypeError (which the
    BoolOp branch is written to swallow), the interpreted engine returns **exactly** the same value or raises the
    same class of exception. -/
theorem C07_interp (P : Prim) (rec : PVal) (fuel : Nat) (e : Expr) (hS : Supported [] e)
    (hG : Good (refMatch P fuel rec e)) : (interpMatch P fuel rec e).2 = refMatch P fuel rec e := by
  rw [interpMatch_eq]
  exact (agree_interp P rec fuel [] e hS _ rfl rfl hG).1

/-- Corollary in the property's own words: on every record on which Python evaluation of the expression yields a
    value, the interpreted engine yields that value (hence the same truth value). -/
theorem C07_interp_value (P : Prim) (rec : PVal) (fuel : Nat) (e : Expr) (hS : Supported [] e) (v : PVal)
    (h : refMatch P fuel rec e = .ok v) : (interpMatch P fuel rec e).2 = .ok v := by
  rw [C07_interp P rec fuel e hS (by rw [h]; exact good_ok v), h]

/-- The same inside any state (generator variables bound, trace non-empty), together with the frame conditions
    the induction needs: the namespace and the record are as before. -/
theorem C07_interp_state (P : Prim) (rec : PVal) (fuel : Nat) (e : Expr) (st : St) (hr : st.record = rec)
    (hS : Supported (keys st.ns) e) (hG : Good (refEval P { compiled := false, record := rec } fuel st.ns e)) :
    (interp P fuel e st).2 = refEval P { compiled := false, record := rec } fuel st.ns e ∧
    (interp P fuel e st).1.ns = st.ns ∧ (interp P fuel e st).1.record = st.record :=
  hr ▸ agree_interp P st.record fuel st.ns e hS st rfl rfl (hr ▸ hG)

/-- **Compiled engine.** `CompiledSelector.match` is Python's `eval` in the namespace {helpers, `net`, `r` ↦ wrapped
    record, `Type`} + builtins (`compiledMatch`). On the documented grammar restricted to the names both namespaces
    bind (`SupportedC`: `r`, `Type`, the helper functions, `any all str repr`, generator variables; no dunder
    attributes) it returns exactly the documented meaning whenever that is defined — the wrapped record's sentinel,
    the unrestricted calls and the unrestricted attribute access of the compiled namespace make no difference there. -/
theorem C07_compiled (P : Prim) (rec : PVal) (fuel : Nat) (e : Expr) (hS : SupportedC [] e)
    (hG : Good (refMatch P fuel rec e)) : compiledMatch P fuel rec e = refMatch P fuel rec e :=
  agreeC_ref P rec fuel [] e hS hG

/-- Both engines: on every expression of the common grammar and every record on which the Python meaning is
    defined, the interpreted and the compiled engine return the same result — the Python one. -/
theorem C07_engines_agree (P : Prim) (rec : PVal) (fuel : Nat) (e : Expr) (hS : Supported [] e) (hC : SupportedC [] e)
    (v : PVal) (h : refMatch P fuel rec e = .ok v) :
    (interpMatch P fuel rec e).2 = .ok v ∧ compiledMatch P fuel rec e = .ok v := by
  have hG : Good (refMatch P fuel rec e) := by rw [h]; exact good_ok v
  exact ⟨by rw [C07_interp P rec fuel e hS hG, h], by rw [C07_compiled P rec fuel e hC hG, h]⟩

/-- Inst: the tables generated from the current source are the documented ones and send every documented
    operator to the same primitive as the reference (a swapped entry such as `Lt ↦ operator.gt` fails here). -/
theorem C07_operator_tables :
    (∀ op ∈ docBinops, (tableArith op).toOption = docArith op) ∧
    (∀ op ∈ docCmpops, (Gen.comparatorShapes.lookup op).bind cmpImplOfTarget = docCmp op) ∧
    Gen.AST_OPERATORS.lookup "Not" = some "operator.not_" ∧
    Gen.AST_OPERATORS.map (·.1) = ["Add", "Mult", "Div", "And", "Or", "Not", "Mod", "BitAnd", "BitOr"] ∧
    Gen.comparatorShapes.map (·.1) = ["Eq", "In", "NotIn", "NotEq", "Gt", "Lt", "GtE", "LtE", "Is", "IsNot"] ∧
    Gen.evalNodeKinds = ["Constant", "List", "Tuple", "Name", "Attribute", "BoolOp", "BinOp", "UnaryOp", "Compare",
      "Call", "comprehension", "GeneratorExp"] ∧
    flagsOk = true :=
  ⟨arith_doc, comparators_doc, table_not, rfl, rfl, rfl, flagsOk_true⟩

/-- An expression outside the language is rejected, not evaluated to something else (1): a node class without a
    branch in `_eval` raises, whatever it contains. -/
theorem C07_rejects_other_nodes (P : Prim) (fuel : Nat) (k : String) (st : St) :
    ∃ err, interp P (fuel + 1) (.other k) st = (st, .error err) :=
  ⟨_, by rw [interp_succ, evalStep_other]; rfl⟩

/-- (2) a unary operator that is not in the generated table (`-x`, `+x`, `~x`) raises KeyError before its operand
    is evaluated. -/
theorem C07_rejects_unary (P : Prim) (fuel : Nat) (op : String) (x : Expr) (st : St)
    (h : Gen.AST_OPERATORS.lookup op = none) :
    interp P (fuel + 1) (.unary op x) st = (st, .error .keyErr) := by
  rw [interp_succ, evalStep_unary, h]; rfl

/-- (3) a binary operator that is not in the generated table (`-`, `//`, `**`, `<<`, `^`, …) never produces a
    value of its own: the result is an error, or the sentinel guard's `False` (C08) when an operand is a missing
    field. -/
theorem C07_rejects_binop (P : Prim) (fuel : Nat) (op : String) (l r : Expr) (st : St)
    (h : Gen.AST_OPERATORS.lookup op = none) (v : PVal)
    (hv : (interp P (fuel + 1) (.binop op l r) st).2 = .ok v) : v = .bool false := by
  have ht : tableArith op = .error .keyErr := by simp [tableArith, h]
  rw [interp_succ, evalStep_binop, ht] at hv
  obtain ⟨lv, -, hv⟩ := M.bind_ok_inv hv
  obtain ⟨rv, -, hv⟩ := M.bind_ok_inv hv
  split at hv <;> cases hv
  rfl

/-- the operators Python has and the selector language does not -/
theorem C07_undocumented_operators_absent :
    (∀ op ∈ ["USub", "UAdd", "Invert", "Sub", "FloorDiv", "Pow", "LShift", "RShift", "BitXor", "MatMult"],
      Gen.AST_OPERATORS.lookup op = none) := by
  decide +kernel

/-- Known finding (stays): a typed matcher on the left of `in` / `not in` is outside the theorem — the interpreted
    engine does not evaluate `left in right` there but `any(v in right for v in left._values())` over the
    top-level fields only, so with the matching value inside a nested record the two engines disagree.
    Witness: primitives in which the matcher's top-level values are `[5]` while Python's membership (which goes
    through the matcher's `__eq__`, nested records included) finds `7`: `Type.varint in [7]`. -/
theorem C07_tmatch_in_counterexample :
    ∃ (P : Prim) (rec : PVal) (e : Expr),
      (interpMatch P 6 rec e).2 = .ok (.bool false) ∧ compiledMatch P 6 rec e = .ok (.bool true) := by
  let P : Prim :=
    { truthy := fun v => match v with | .bool b => b | _ => true,
      rich := fun _ _ _ => .error .typeErr,
      contains := fun c x => match c, x with
        | .list [.int 7], .tmatch _ _ => .ok true      -- `[7].__contains__(matcher)`: 7 == matcher looks into nested records
        | _, _ => .ok false,
      is_ := fun _ _ => false, arith := fun _ _ _ => .error .typeErr,
      getattr := fun v a => match v with | .typeRoot => some (.tmatch [a] []) | _ => none,
      iter := fun _ => .error .typeErr, call := fun _ _ _ => .error .typeErr, dynft := fun _ => .error .attrErr,
      modattr := fun _ _ => .error .attrErr,
      tmValues := fun _ _ => [.int 5] }                 -- `_values()`: the top-level varint field only
  exact ⟨P, .recv "t" [], .compare (.attr (.name "Type") "varint") [("In", .list [.const (.int 7)])], rfl, rfl⟩

/-- The engines are handed the expression TEXT the caller gave: `make_selector` (what the readers, `record_stream` and
    rdump call) passes a text selector to `CompiledSelector(selector)` / `Selector(selector)` as it is - nothing
    normalises, strips or rewrites it on the way - and an interpreted selector is recompiled from its own
    `expression_str`. (The regenerated if-chain of `make_selector`.) -/
theorem C07_make_selector_hands_over_the_text :
    Gen.makeSelectorChain = [("not selector", "ret = None"),
      ("isinstance(selector, string_types)", "ret = CompiledSelector(selector) if force_compiled else Selector(selector)"),
      ("isinstance(selector, Selector)", "if force_compiled:\n    ret = CompiledSelector(selector.expression_str)")] ∧
    Gen.makeSelectorDefaultIsArgument = true :=
  ⟨rfl, rfl⟩

-- Non-vacuity: `Supported` is inhabited by real selectors, `Good` holds on them, and the evaluators compute.
namespace C07_nonvacuous
def P0 : Prim :=
  { truthy := fun v => match v with | .bool b => b | .none => false | .int i => i != 0 | _ => true,
    rich := fun o a b => match o, a, b with
      | .lt, .int x, .int y => .ok (.bool (x < y))
      | .eq, .int x, .int y => .ok (.bool (x == y))
      | _, _, _ => .error .typeErr,
    contains := fun _ _ => .ok false, is_ := fun _ _ => false,
    arith := fun o a b => match o, a, b with | .add, .int x, .int y => .ok (.int (x + y)) | _, _, _ => .error .typeErr,
    getattr := fun v a => match v with | .recv _ fs => (fs.find? (fun f => f.1 == a)).map (·.2.2) | _ => none,
    iter := fun v => match v with | .list xs => .ok xs | _ => .error .typeErr,
    call := fun _ _ _ => .error .typeErr, dynft := fun _ => .error .attrErr, modattr := fun _ _ => .error .attrErr,
    tmValues := fun _ _ => [] }
def rec0 : PVal := .recv "t" [("n", "varint", .int 100), ("l", "varint[]", .list [.int 1, .int 2])]
def rn : Expr := .attr (.name "r") "n"
/-- `1 < r.n < 3` (finding #3): both evaluators say False for n = 100 -/
def chain : Expr := .compare (.const (.int 1)) [("Lt", rn), ("Lt", .const (.int 3))]
example : Supported [] chain :=
  .compare _ _ _ (.const _ _) (by decide)
    (List.forall_mem_cons.2 ⟨.attr _ _ _ (.name _ _), List.forall_mem_singleton.2 (.const _ _)⟩)
example : refMatch P0 6 rec0 chain = .ok (.bool false) := by rfl
example : (interpMatch P0 6 rec0 chain).2 = .ok (.bool false) := by rfl
/-- `any(x == 1 for x in r.l) and any(x == 2 for x in r.l)` (finding #4): the variable is reusable -/
def anyx (k : Int) : Expr :=
  .call (.name "any") [.genexp (.compare (.name "x") [("Eq", .const (.int k))]) [(some "x", .attr (.name "r") "l", [])]] []
example : (interpMatch P0 8 rec0 (.boolop "And" [anyx 1, anyx 2])).2 = .ok (.bool true) := by rfl
example : Supported [] (anyx 1) :=
  .callGen [] (.name "any") "any" .any _ "x" _ [] rfl (by decide +kernel) rfl (by simp) (by decide +kernel)
    (.attr _ _ _ (.name _ _)) (by simp)
    (.compare _ _ _ (.name _ _) (by decide) (List.forall_mem_singleton.2 (.const _ _)))
example : SupportedC [] chain :=
  .compare _ _ _ (.const _ _) (List.forall_mem_cons.2
    ⟨.attr _ _ _ (by decide) (.name _ _ (Or.inr (by decide))), List.forall_mem_singleton.2 (.const _ _)⟩)
example : compiledMatch P0 6 rec0 chain = .ok (.bool false) := by rfl
example : compiledMatch P0 8 rec0 (.boolop "And" [anyx 1, anyx 2]) = .ok (.bool true) := by rfl
/-- `(r.a or 5) == 5` (finding #19): the BoolOp yields the operand -/
example : (interpMatch P0 6 (.recv "t" [("a", "varint", .int 0)])
    (.compare (.boolop "Or" [.attr (.name "r") "a", .const (.int 5)]) [("Eq", .const (.int 5))])).2
    = .ok (.bool true) := by rfl
end C07_nonvacuous
