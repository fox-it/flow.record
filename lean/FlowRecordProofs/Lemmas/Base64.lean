import FlowRecord.Model.Base64
/-!
C14: base64 decode after encode is the identity on every byte list. The decoder is stated on whole groups of alphabet
characters, sextets as variables (`b64dec_group`, and the two padded groups that may end a text); a sextet that
straddles two bytes is a pair of digits (`digits`), which the decoder's `/` and `%` take apart again.
-/
namespace FlowRecord.Base64

theorem b64val_char : ∀ n < 64, b64val (b64char n) = some n := by decide

theorem b64char_ne_pad : ∀ n < 64, b64char n ≠ 61 := by decide

theorem b64dec_group {p q r s : Nat} (hp : p < 64) (hq : q < 64) (hr : r < 64) (hs : s < 64) (rest : Text) :
    b64dec (b64char p :: b64char q :: b64char r :: b64char s :: rest) = (b64dec rest).map fun bs =>
      UInt8.ofNat (p * 4 + q / 16) :: UInt8.ofNat (q % 16 * 16 + r / 4) :: UInt8.ofNat (r % 4 * 64 + s) :: bs := by
  simp only [b64dec, b64val_char _ hp, b64val_char _ hq, b64val_char _ hr, b64val_char _ hs, b64char_ne_pad _ hr,
    b64char_ne_pad _ hs, if_false]

theorem b64dec_pad1 {p q r : Nat} (hp : p < 64) (hq : q < 64) (hr : r < 64) :
    b64dec [b64char p, b64char q, b64char r, 61]
      = some [UInt8.ofNat (p * 4 + q / 16), UInt8.ofNat (q % 16 * 16 + r / 4)] := by
  simp only [b64dec, b64val_char _ hp, b64val_char _ hq, b64val_char _ hr, b64char_ne_pad _ hr, if_true, if_false]

theorem b64dec_pad2 {p q : Nat} (hp : p < 64) (hq : q < 64) :
    b64dec [b64char p, b64char q, 61, 61] = some [UInt8.ofNat (p * 4 + q / 16)] := by
  simp only [b64dec, b64val_char _ hp, b64val_char _ hq, if_true, and_self]

theorem digits {h l k m : Nat} (hh : h < m) (hl : l < k) :
    h * k + l < m * k ∧ (h * k + l) / k = h ∧ (h * k + l) % k = l :=
  ⟨Nat.lt_of_lt_of_le (Nat.add_lt_add_left hl _) (Nat.succ_mul h k ▸ Nat.mul_le_mul_right k hh),
    (Nat.div_mod_unique (Nat.zero_lt_of_lt hl)).mpr ⟨by rw [Nat.add_comm, Nat.mul_comm], hl⟩⟩

theorem byte_parts (x : UInt8) (k : Nat) : UInt8.ofNat (x.toNat / k * k + x.toNat % k) = x := by
  rw [Nat.div_add_mod', UInt8.ofNat_toNat]

theorem b64dec_b64enc (b : List UInt8) : b64dec (b64enc b) = some b := by
  -- bytes `a b c` are cut 6+2, 4+4, 2+6; the sextets are `a / 4`, the digit pairs `q`, `r`, and `c % 64`. In a
  -- padded group the last sextet has low digit 0. The bounds are put together from `Nat` lemmas: `omega` for each of
  -- them makes the proof four times as dear to check.
  fun_induction b64enc b with
  | case1 => rfl
  | case2 a =>
    have ha : a.toNat < 4 * 64 := a.toNat_lt
    have hq : a.toNat % 4 * 16 < 4 * 16 := Nat.mul_lt_mul_of_pos_right (Nat.mod_lt _ (by decide)) (by decide)
    rw [b64dec_pad2 (Nat.div_lt_of_lt_mul ha) hq, Nat.mul_div_cancel _ (by decide), byte_parts]
  | case3 a b =>
    have ha : a.toNat < 4 * 64 := a.toNat_lt
    have hb : b.toNat < 16 * 16 := b.toNat_lt
    have q := digits (Nat.mod_lt a.toNat (by decide : 0 < 4)) (Nat.div_lt_of_lt_mul hb)
    have hr : b.toNat % 16 * 4 < 16 * 4 := Nat.mul_lt_mul_of_pos_right (Nat.mod_lt _ (by decide)) (by decide)
    rw [b64dec_pad1 (Nat.div_lt_of_lt_mul ha) q.1 hr, q.2.1, q.2.2, Nat.mul_div_cancel _ (by decide), byte_parts,
      byte_parts]
  | case4 a b c rest ih =>
    have ha : a.toNat < 4 * 64 := a.toNat_lt
    have hb : b.toNat < 16 * 16 := b.toNat_lt
    have hc : c.toNat < 64 * 4 := c.toNat_lt
    have q := digits (Nat.mod_lt a.toNat (by decide : 0 < 4)) (Nat.div_lt_of_lt_mul hb)
    have r := digits (Nat.mod_lt b.toNat (by decide : 0 < 16)) (Nat.div_lt_of_lt_mul hc)
    rw [b64dec_group (Nat.div_lt_of_lt_mul ha) q.1 r.1 (Nat.mod_lt _ (by decide)), ih, q.2.1, q.2.2, r.2.1, r.2.2,
      byte_parts, byte_parts, byte_parts]
    rfl

end FlowRecord.Base64
