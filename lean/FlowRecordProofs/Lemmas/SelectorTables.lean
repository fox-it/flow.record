import FlowRecord.Model.Selector.Interp
import FlowRecord.Model.Selector.Ref
/-! Facts about the tables generated from `selector.py`, each evaluated once and quoted from here; and the documented
    operator sets (`docBinops`, `docCmpops`, `docImpl`) in which `Supported` and the theorems of C08 are written. -/
namespace FlowRecord.Selector

/-- The documented `BinOp` operators (`And` / `Or` / `Not` are `BoolOp` / `UnaryOp` nodes). -/
def docBinops : List String := ["Add", "Mult", "Div", "Mod", "BitAnd", "BitOr"]
def docCmpops : List String := ["Eq", "NotEq", "Lt", "Gt", "LtE", "GtE", "In", "NotIn", "Is", "IsNot"]

/-- What the documentation says each comparison operator of the interpreted engine does. -/
def docImpl : SelOp → CmpImpl
  | .cmp o => .rich o
  | .isin => .guardedIn
  | .notin => .guardedNotIn

/-- `Expr.kind` of every constructor of `Expr` but `.other` -/
abbrev handledKinds : List String :=
  ["Constant", "List", "Tuple", "Name", "Attribute", "BoolOp", "BinOp", "UnaryOp", "Compare", "Call", "GeneratorExp"]

theorem kinds_handled : ∀ k ∈ handledKinds, Gen.evalNodeKinds.contains k = true := by decide +kernel

theorem flagsOk_true : flagsOk = true := rfl

theorem attrRefusedPrefix_eq : Gen.attrRefusedPrefix = "__" := rfl

theorem nameRefused_eq (id : String) : nameRefused id = hasPrefix "__" id := rfl

theorem r_Type_bound : "r" ∈ baseKeys ∧ "Type" ∈ baseKeys := by decide

/-- callables bound under the same name in both namespaces -/
def callableCommon : List String := Gen.FUNCTION_WHITELIST ++ pyBuiltinsModelled

theorem common_callables_allowed : ∀ n ∈ callableCommon, allowedCalls.contains n = true ∧ (n == "net") = false := by
  decide +kernel

theorem table_not : Gen.AST_OPERATORS.lookup "Not" = some "operator.not_" := by decide

theorem whitelist_no_dunder : ∀ w ∈ Gen.WHITELIST, ∀ part ∈ splitDot w, hasPrefix "__" part = false := by
  -- evaluated on the code points: `splitDot` turns each part back into a `String`, which is dear to compute with
  have h : ∀ w ∈ Gen.WHITELIST, ∀ cs ∈ splitDotAux w.toList [], "__".toList.isPrefixOf cs = false := by decide +kernel
  intro w hw part hp
  obtain ⟨cs, hcs, rfl⟩ := List.mem_map.1 hp
  simpa [hasPrefix] using h w hw cs hcs

theorem arith_doc : ∀ op ∈ docBinops, (tableArith op).toOption = docArith op := by decide +kernel

theorem docArith_isSome : ∀ op ∈ docBinops, (docArith op).isSome = true := by decide

theorem tableArith_doc {op : String} (hop : op ∈ docBinops) : ∃ a, tableArith op = .ok a ∧ docArith op = some a := by
  have h := arith_doc op hop
  have hs := docArith_isSome op hop
  cases ht : tableArith op with
  | ok a => exact ⟨a, rfl, by rw [← h, ht]; rfl⟩
  | error e => rw [← h, ht] at hs; cases hs

theorem comparators_doc : ∀ op ∈ docCmpops, (Gen.comparatorShapes.lookup op).bind cmpImplOfTarget = docCmp op := by
  decide +kernel

theorem docCmp_isSome : ∀ op ∈ docCmpops, (docCmp op).isSome = true := by decide

theorem astName_doc (op : SelOp) : op.astName ∈ docCmpops ∧ docCmp op.astName = some (docImpl op) := by
  cases op with
  | cmp o => cases o <;> exact ⟨by decide, rfl⟩
  | isin | notin => exact ⟨by decide, rfl⟩

/-- What `tableCompare` makes of a decoded table entry: `applyCmpImpl T` with the primitives of `P` for Python's
    dispatch. -/
def CmpImpl.prim (P : Prim) : CmpImpl → PVal → PVal → Except Err PVal
  | .rich o => P.rich o
  | .is_ => fun l r => .ok (.bool (P.is_ l r))
  | .isNot => fun l r => .ok (.bool (!P.is_ l r))
  | .guardedIn => fun l r =>
    if l.isMissing || r.isMissing then .ok (.bool false) else (P.contains r l).map PVal.bool
  | .guardedNotIn => fun l r =>
    if l.isMissing || r.isMissing then .ok (.bool false) else (P.contains r l).map (fun b => PVal.bool (b == false))

theorem tableCompare_of_impl {P : Prim} {op : String} {impl : CmpImpl}
    (h : (Gen.comparatorShapes.lookup op).bind cmpImplOfTarget = some impl) : tableCompare P op = .ok (impl.prim P) := by
  obtain ⟨tgt, hl, ht⟩ := Option.bind_eq_some_iff.1 h
  simp only [tableCompare, hl, ht]
  cases impl <;> rfl

theorem interpCompare_of_impl {T : ClassTable} {op : String} {impl : CmpImpl}
    (h : (Gen.comparatorShapes.lookup op).bind cmpImplOfTarget = some impl) (l r : PVal) :
    interpCompare T op l r = applyCmpImpl T impl l r := by
  obtain ⟨tgt, hl, ht⟩ := Option.bind_eq_some_iff.1 h
  simp only [interpCompare, hl, ht]

theorem comparators_sel (op : SelOp) :
    (Gen.comparatorShapes.lookup op.astName).bind cmpImplOfTarget = some (docImpl op) :=
  (comparators_doc _ (astName_doc op).1).trans (astName_doc op).2

theorem interpCompare_doc (T : ClassTable) (op : SelOp) (l r : PVal) :
    interpCompare T op.astName l r = applyCmpImpl T (docImpl op) l r :=
  interpCompare_of_impl (comparators_sel op) l r

end FlowRecord.Selector
