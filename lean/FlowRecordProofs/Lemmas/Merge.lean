import FlowRecord.Model.Compose
import FlowRecordProofs.Lemmas.Assoc
/-!
The maps from field tuples to field tuples (C15): `merge_record_descriptors`, `descriptor.fields`,
`record_descriptor_for_fields`. The nested merge loops are one fold of `mergeStep` over all tuples in order
(`mergeMap_flat`). Field tuples are `(type, name)` and the dictionaries name ↦ type: `nameTypes` swaps every pair and
undoes itself.
-/
namespace FlowRecord.Compose
open FlowRecord.Descriptor

theorem keys_nameTypes (fs : List (Str × Str)) : keys (nameTypes fs) = fs.map (·.2) :=
  List.map_map

theorem nameTypes_nameTypes (fs : List (Str × Str)) : nameTypes (nameTypes fs) = fs :=
  List.map_map.trans (List.map_id fs)

theorem nameTypes_append (a b : List (Str × Str)) : nameTypes (a ++ b) = nameTypes a ++ nameTypes b :=
  List.map_append

theorem filter_nameTypes (P : Str × Str → Bool) (fs : List (Str × Str)) :
    (nameTypes fs).filter P = nameTypes (fs.filter fun f => P (f.2, f.1)) :=
  List.filter_map

theorem flatMap_nameTypes (descs : List (List (Str × Str))) :
    descs.flatMap nameTypes = nameTypes (descs.flatMap id) :=
  List.map_flatMap.symm

theorem mergeMap_flat (replace : Bool) (descs : List (List (Str × Str))) :
    mergeMap replace descs = (descs.flatMap nameTypes).foldl (mergeStep replace) [] :=
  List.foldl_flatMap.symm

theorem mergeFields_eq (replace : Bool) (descs : List (List (Str × Str))) :
    mergeFields replace descs = nameTypes (mergeMap replace descs) := rfl

theorem nameTypes_mergeFields (replace : Bool) (descs : List (List (Str × Str))) :
    nameTypes (mergeFields replace descs) = mergeMap replace descs :=
  nameTypes_nameTypes _

theorem mergeStep_replace (m : List (Str × Str)) (p : Str × Str) : mergeStep true m p = odSet m p.1 p.2 := rfl

theorem mergeStep_noreplace (m : List (Str × Str)) (p : Str × Str) :
    mergeStep false m p = if (keys m).contains p.1 then m else m ++ [p] :=
  ite_congr rfl (fun _ => rfl) fun h => odSet_not_mem m p.1 p.2 (by simpa using h)

theorem keys_mergeStep (replace : Bool) (m : List (Str × Str)) (p : Str × Str) :
    keys (mergeStep replace m p) = keys (odSet m p.1 p.2) := by
  cases replace
  · rw [mergeStep_noreplace, keys_odSet, apply_ite keys, keys_append]
    simp only [List.contains_eq_mem, decide_eq_true_eq]; rfl
  · rw [mergeStep_replace]

theorem alGet_mergeStep_noreplace (m : List (Str × Str)) (p : Str × Str) (k : Str) :
    alGet (mergeStep false m p) k = (alGet m k).or (alGet [p] k) := by
  rw [mergeStep_noreplace]
  split
  · -- the name is there already: a lookup that would find `p` finds the older entry
    rename_i hm
    rw [alGet_cons, alGet_nil]
    split
    · obtain ⟨v, hv⟩ := exists_alGet_of_mem (by simpa [‹p.1 = k›] using hm : k ∈ keys m)
      rw [hv]; rfl
    · exact (Option.or_none).symm
  · exact alGet_append m [p] k

theorem alGet_mergeStep_replace (m : List (Str × Str)) (p : Str × Str) (k : Str) :
    alGet (mergeStep true m p) k = (alGet [p] k).or (alGet m k) := by
  rw [mergeStep_replace, alGet_odSet, alGet_cons, alGet_nil]
  by_cases hk : k = p.1
  · simp [hk]
  · simp [hk, Ne.symm hk]

theorem alGet_foldl_noreplace (ps m : List (Str × Str)) (k : Str) :
    alGet (ps.foldl (mergeStep false) m) k = (alGet m k).or (alGet ps k) := by
  induction ps generalizing m with
  | nil => simp [alGet_nil]
  | cons p ps ih =>
    rw [List.foldl_cons, ih, alGet_mergeStep_noreplace, Option.or_assoc, ← alGet_append]; rfl

theorem alGet_foldl_replace (ps m : List (Str × Str)) (k : Str) :
    alGet (ps.foldl (mergeStep true) m) k = (alGet ps.reverse k).or (alGet m k) := by
  induction ps generalizing m with
  | nil => simp [alGet_nil]
  | cons p ps ih =>
    rw [List.foldl_cons, ih, alGet_mergeStep_replace, List.reverse_cons, alGet_append, Option.or_assoc]

theorem names_mergeFields (replace : Bool) (descs : List (List (Str × Str))) :
    (mergeFields replace descs).map (·.2) = firstOcc ((descs.flatMap id).map (·.2)) := by
  rw [← keys_nameTypes, nameTypes_mergeFields, mergeMap_flat, keys_foldl_nil _ (keys_mergeStep replace),
    flatMap_nameTypes, keys_nameTypes]

theorem nodup_names_mergeFields (replace : Bool) (descs : List (List (Str × Str))) :
    ((mergeFields replace descs).map (·.2)).Nodup := by
  rw [names_mergeFields]; exact firstOcc_nodup _

theorem mergeStep_fresh (replace : Bool) {m : List (Str × Str)} {p : Str × Str} (h : p.1 ∉ keys m) :
    mergeStep replace m p = m ++ [p] := by
  cases replace
  · rw [mergeStep_noreplace, if_neg (by simpa using h)]
  · exact odSet_not_mem m p.1 p.2 h

theorem foldl_mergeStep_fresh (replace : Bool) {ps : List (Str × Str)} (m : List (Str × Str)) (hnd : (keys ps).Nodup)
    (hm : ∀ k ∈ keys ps, k ∉ keys m) : ps.foldl (mergeStep replace) m = m ++ ps := by
  induction ps generalizing m with
  | nil => simp
  | cons p ps ih =>
    have hp : p.1 ∉ keys ps := (List.nodup_cons.mp hnd).1
    have hm' : ∀ k ∈ keys ps, k ∉ keys (m ++ [p]) := fun k hk hmem =>
      (List.mem_append.mp (keys_append m [p] ▸ hmem)).elim (hm k (List.mem_cons_of_mem _ hk))
        fun (h : k ∈ [p.1]) => hp (List.mem_singleton.mp h ▸ hk)
    rw [List.foldl_cons, mergeStep_fresh replace (hm p.1 List.mem_cons_self), ih _ (List.nodup_cons.mp hnd).2 hm',
      List.append_assoc]
    rfl

theorem foldl_noreplace_nodup {ps : List (Str × Str)} (m : List (Str × Str)) (hnd : (keys ps).Nodup) :
    ps.foldl (mergeStep false) m = m ++ ps.filter (fun p => !(keys m).contains p.1) := by
  induction ps generalizing m with
  | nil => simp
  | cons p ps ih =>
    have hp : ∀ q ∈ ps, q.1 ≠ p.1 := fun q hq e => (List.nodup_cons.mp hnd).1 (List.mem_map.mpr ⟨q, hq, e⟩)
    rw [List.foldl_cons, ih _ (List.nodup_cons.mp hnd).2, mergeStep_noreplace, List.filter_cons]
    by_cases hm : (keys m).contains p.1 = true
    · rw [if_pos hm, if_neg (by rw [hm]; decide)]
    · -- no later pair has the name of `p`: that `p` has been seen changes nothing for them
      have hlater : ∀ q ∈ ps, (!(keys (m ++ [p])).contains q.1) = !(keys m).contains q.1 := fun q hq => by
        simp [keys_append, keys_cons, keys_nil, hp q hq]
      rw [if_neg hm, if_pos (by simpa using hm), List.append_assoc, List.singleton_append, List.filter_congr hlater]

theorem mergeFields_two (l1 l2 : List (Str × Str)) (h1 : (l1.map (·.2)).Nodup) (h2 : (l2.map (·.2)).Nodup) :
    mergeFields false [l1, l2] = l1 ++ l2.filter (fun f => !(l1.map (·.2)).contains f.2) := by
  have hmap : mergeMap false [l1, l2] =
      nameTypes l1 ++ (nameTypes l2).filter fun p => !(keys (nameTypes l1)).contains p.1 := by
    rw [mergeMap_flat, List.flatMap_cons, List.flatMap_cons, List.flatMap_nil, List.append_nil, List.foldl_append,
      foldl_mergeStep_fresh false [] (by rwa [keys_nameTypes]) (fun _ _ h => nomatch h), List.nil_append,
      foldl_noreplace_nodup _ (by rwa [keys_nameTypes])]
  rw [mergeFields_eq, hmap, keys_nameTypes, filter_nameTypes, ← nameTypes_append, nameTypes_nameTypes]

theorem filter_mergeStep_noreplace (P : Str → Bool) (m : List (Str × Str)) (p : Str × Str) :
    (mergeStep false m p).filter (fun q => P q.1) =
      if P p.1 then mergeStep false (m.filter fun q => P q.1) p else m.filter fun q => P q.1 := by
  rw [mergeStep_noreplace, mergeStep_noreplace]
  by_cases hP : P p.1 = true
  · have : (keys (m.filter fun q => P q.1)).contains p.1 = (keys m).contains p.1 := by
      simp [mem_keys_filter, hP]
    rw [this]
    split <;> simp [hP]
  · split <;> simp [hP]

theorem filter_foldl_noreplace (P : Str → Bool) (ps m : List (Str × Str)) :
    (ps.foldl (mergeStep false) m).filter (fun p => P p.1) =
      (ps.filter (fun p => P p.1)).foldl (mergeStep false) (m.filter (fun p => P p.1)) := by
  rw [List.foldl_filter]
  exact (List.foldl_hom (List.filter _) fun m p => (filter_mergeStep_noreplace P m p).symm).symm

/-- `fieldMap` unfolds to the `replace` fold over the one descriptor. -/
theorem fieldMap_nodup (fields : List (Str × Str)) (h : (fields.map (·.2)).Nodup) :
    fieldMap fields = nameTypes fields :=
  foldl_mergeStep_fresh true [] (by rwa [keys_nameTypes]) (fun _ _ h => nomatch h)

theorem mem_keys_fieldMap {fields : List (Str × Str)} {k : Str} : k ∈ keys (fieldMap fields) ↔ k ∈ fields.map (·.2) := by
  rw [fieldMap, keys_odOfList, mem_firstOcc, ← keys_nameTypes]

theorem projectFields_nil (exclude : List Str) (desc : List (Str × Str)) :
    projectFields [] exclude desc = desc.filter fun f => !exclude.contains f.2 := by
  cases exclude with
  | nil => exact (List.filter_eq_self.mpr fun _ _ => rfl).symm
  | cons => rfl

theorem projectFields_of_ne_nil {fields : List Str} (h : fields ≠ []) (exclude : List Str) (desc : List (Str × Str)) :
    projectFields fields exclude desc = fields.filterMap fun n =>
      if exclude.contains n then none else (alGet (fieldMap desc) n).map fun t => (t, n) := by
  cases fields with
  | nil => exact absurd rfl h
  | cons => rfl

theorem mem_projectFields {fields exclude : List Str} {desc : List (Str × Str)} (h : fields ≠ []) {f : Str × Str}
    (hf : f ∈ projectFields fields exclude desc) : alGet (fieldMap desc) f.2 = some f.1 := by
  rw [projectFields_of_ne_nil h] at hf
  obtain ⟨n, -, hg⟩ := List.mem_filterMap.mp hf
  split at hg
  · cases hg
  · obtain ⟨t, ht, rfl⟩ := Option.map_eq_some_iff.mp hg
    exact ht

theorem names_projectFields_subset (fields exclude : List Str) (desc : List (Str × Str)) :
    ∀ n ∈ (projectFields fields exclude desc).map (·.2), n ∈ desc.map (·.2) := by
  intro n hn
  obtain ⟨f, hf, rfl⟩ := List.mem_map.mp hn
  by_cases h : fields = []
  · rw [h, projectFields_nil] at hf
    exact List.mem_map_of_mem (List.mem_filter.mp hf).1
  · exact mem_keys_fieldMap.mp (alGet_isSome_iff.mp (by simp [mem_projectFields h hf]))

end FlowRecord.Compose
