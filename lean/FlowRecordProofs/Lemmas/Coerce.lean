import FlowRecord.Model.Coerce
/-!
C05. "What the operation returns, if it returns, satisfies `p`" is written `okAll p (operation) = true`: a goal in this
form is taken apart along the operation's own branches (`okAll_bind`, `okAll_map`), and a branch that ends in a value
or in an error is closed by `rfl`.
-/
namespace FlowRecord.Coerce

def okAll {ε α : Type} (p : α → Bool) : Except ε α → Bool
  | .ok a => p a
  | .error _ => true

section okAll
variable {ε α β : Type} {x : Except ε α} {p : β → Bool}

theorem okAll_iff {p : α → Bool} : okAll p x = true ↔ ∀ a, x = .ok a → p a = true := by
  cases x with
  | error e => exact ⟨nofun, fun _ => rfl⟩
  | ok a => exact ⟨fun h _ e => Except.ok.inj e ▸ h, fun h => h a rfl⟩

theorem okAll_bind {f : α → Except ε β} (h : ∀ a, x = .ok a → okAll p (f a) = true) :
    okAll p (x >>= f) = true := by
  cases x with
  | error e => rfl
  | ok a => exact h a rfl

theorem bind_ok_inv {f : α → Except ε β} {b : β} (h : (x >>= f) = .ok b) : ∃ a, x = .ok a ∧ f a = .ok b := by
  cases x with
  | error e => simp [bind, Except.bind] at h
  | ok a => exact ⟨a, rfl, h⟩

theorem okAll_map {f : α → β} (h : ∀ a, x = .ok a → p (f a) = true) : okAll p (x.map f) = true := by
  cases x with
  | error e => rfl
  | ok a => exact h a rfl

theorem okAll_cons {q : α → Bool} {r p : List α → Bool} {xs : Except ε (List α)} (hx : okAll q x = true)
    (hxs : okAll r xs = true) (h : ∀ a as, q a = true → r as = true → p (a :: as) = true) :
    okAll p (do let a ← x; let as ← xs; pure (a :: as)) = true :=
  okAll_bind fun a ha => okAll_bind fun as has => h a as (okAll_iff.mp hx a ha) (okAll_iff.mp hxs as has)
end okAll

theorem objOfLib_hasType {c : ObjCls} {fn : String} {x : Inp} {t : BT} (h : ∀ r, hasTypeBT t (.obj c r) = true) :
    okAll (hasTypeBT t) (objOfLib c fn x) = true := by
  unfold objOfLib; split
  · rfl
  · exact h _

theorem dtOfLib_hasType (r : LibRes) : okAll (hasTypeBT .datetime) (dtOfLib r) = true := by
  cases r <;> rfl

/-- each branch of a constructor ends in an error, in a value of the class, or in what one of the two wrappers above
    returns -/
theorem coerceBT_hasType (t : BT) (x : Inp) : okAll (hasTypeBT t) (coerceBT t x) = true := by
  cases t with
  | boolean => exact okAll_bind fun _ _ => okAll_bind fun ok _ => by cases ok <;> rfl
  | uint c => exact okAll_bind fun _ _ => okAll_bind fun ok _ => by cases ok <;> cases c <;> rfl
  | intLike c => exact okAll_bind fun _ _ => by cases c <;> rfl
  | string => exact okAll_bind fun _ _ => rfl
  | uri => exact okAll_bind fun _ _ => by split <;> rfl
  | record => rfl
  | path | ipaddress | ipnetwork => exact objOfLib_hasType fun _ => rfl
  | float | bytes => simp only [coerceBT]; split <;> (try split) <;> rfl
  | stringlist | dictlist => simp only [coerceBT]; split <;> rfl
  | datetime => simp only [coerceBT]; split <;> first | rfl | exact dtOfLib_hasType _
  | digest =>
    simp only [coerceBT]
    split <;> first | rfl | exact okAll_bind fun _ _ => okAll_bind fun _ _ => okAll_bind fun _ _ => rfl
  | command | ipv4Address | ipv4Subnet | dynamic =>
    simp only [coerceBT]; split <;> first | rfl | exact objOfLib_hasType fun _ => rfl

theorem coerceElems_all (t : BT) : ∀ xs : List Inp, okAll (·.all (hasTypeBT t)) (coerceElems t xs) = true
  | [] => rfl
  | x :: xs => okAll_cons (coerceBT_hasType t x) (coerceElems_all t xs) fun v vs hv hvs => by simp [hv, hvs]

theorem coerce_hasType : ∀ (t : FType) (x : Inp), okAll (hasType t) (coerce t x) = true
  | .scalar t, x => coerceBT_hasType t x
  | .list t, x => by
    simp only [coerce]; split
    · simp [okAll, hasType]
    · split
      · exact okAll_map fun vs h => by simp [hasType, okAll_iff.mp (coerceElems_all t _) vs h]
      · rfl

theorem default_okVal (t : FType) : okVal t (default t) = true := by
  cases t with
  | scalar t => cases t <;> rfl
  | list t => simp [default, okVal, hasType]

theorem okVal_of_hasType {t : FType} {v : FVal} (h : hasType t v = true) : okVal t v = true := by
  cases v <;> first | rfl | exact h

theorem initSlot_okVal (t : FType) (x : Inp) : okAll (okVal t) (initSlot t x) = true := by
  unfold initSlot; split
  · exact default_okVal t
  · exact okAll_iff.mpr fun v h => okVal_of_hasType (okAll_iff.mp (coerce_hasType t _) v h)

theorem slotsOk_set {k : Str} {t : FType} {fv : FVal} (hv : okVal t fv = true) (ts : List (Str × FType)) :
    ∀ (vs : List FVal) (i : Nat), slotsOk ts vs = true → ts[i]? = some (k, t) →
      slotsOk ts (vs.set i fv) = true := by
  induction ts with
  | nil => intro vs i _ hi; simp at hi
  | cons p ts ih =>
    intro vs i hok hi
    cases vs with
    | nil => simp [slotsOk] at hok
    | cons v vs =>
      obtain ⟨k0, t0⟩ := p
      simp only [slotsOk, Bool.and_eq_true] at hok
      cases i with
      | zero =>
        simp only [List.getElem?_cons_zero, Option.some.injEq, Prod.mk.injEq] at hi
        simp [slotsOk, hi.2, hv, hok.2]
      | succ i =>
        simp [slotsOk, hok.1, ih vs i hok.2 hi]

theorem initSlots_slotsOk :
    ∀ (ts : List (Str × FType)) (args : List Inp), okAll (slotsOk ts) (initSlots ts args) = true
  | [], _ => rfl
  | (_, t) :: ts, [] =>
    okAll_cons (initSlot_okVal t _) (initSlots_slotsOk ts []) fun v vs hv hvs => by simp [slotsOk, hv, hvs]
  | (_, t) :: ts, x :: xs =>
    okAll_cons (initSlot_okVal t x) (initSlots_slotsOk ts xs) fun v vs hv hvs => by simp [slotsOk, hv, hvs]

theorem replaceSlots_slotsOk (kvs : List (Str × Inp)) : ∀ (ts : List (Str × FType)) (vs : List FVal),
    slotsOk ts vs = true → okAll (slotsOk ts) (replaceSlots ts vs kvs) = true
  | [], [], _ => rfl
  | [], _ :: _, h | _ :: _, [], h => by simp [slotsOk] at h
  | (k, t) :: ts, v :: vs, h => by
    simp only [slotsOk, Bool.and_eq_true] at h
    refine okAll_cons (q := okVal t) ?_ (replaceSlots_slotsOk kvs ts vs h.2) fun v vs hv hvs => by
      simp [slotsOk, hv, hvs]
    split
    · exact initSlot_okVal t _
    · split
      · exact default_okVal t
      · exact h.1

theorem assign_ok_inv {r : Record} {k : Str} {v : Inp} {r' : Record} (h : assign r k v = .ok r') :
    ∃ i kt fv, slotIndex r k = some i ∧ r.types[i]? = some kt ∧ (fv = .unset ∨ coerce kt.2 v = .ok fv) ∧
      r' = { r with vals := r.vals.set i fv } := by
  revert h
  fun_cases assign r k v
  case case2 i hi _ =>                   -- `None` into slot `i`
    rintro ⟨⟩
    have hlt : i < r.types.length := (List.findIdx?_eq_some_iff_getElem.mp hi).1
    exact ⟨i, _, .unset, hi, List.getElem?_eq_getElem hlt, .inl rfl, rfl⟩
  case case4 i hi _ t ht _ =>            -- any other value, through the constructor of the slot's type `t`
    cases hc : coerce t v with
    | error e => nofun
    | ok fv => rintro ⟨⟩; exact ⟨i, _, fv, hi, ht, .inr hc, rfl⟩
  all_goals nofun        -- the two branches that raise AttributeError

theorem assign_wellTyped (r : Record) (k : Str) (v : Inp) (hw : wellTyped r = true) :
    okAll wellTyped (assign r k v) = true :=
  okAll_iff.mpr fun r' h => by
    obtain ⟨i, kt, fv, -, ht, hfv, rfl⟩ := assign_ok_inv h
    refine slotsOk_set ?_ r.types r.vals i hw ht
    rcases hfv with rfl | hc
    · rfl
    · exact okVal_of_hasType (okAll_iff.mp (coerce_hasType _ _) _ hc)

theorem replace_wellTyped (r : Record) (kvs : List (Str × Inp)) (hw : wellTyped r = true) :
    okAll wellTyped (replace r kvs) = true :=
  okAll_bind fun vs hvs => by
    split
    · rfl
    · exact okAll_iff.mp (replaceSlots_slotsOk kvs r.types r.vals hw) vs hvs

theorem construct_wellTyped (types : List (Str × FType)) (args : List Inp) :
    okAll wellTyped (construct types args) = true := by
  unfold construct; split
  · rfl
  · exact okAll_map (okAll_iff.mp (initSlots_slotsOk types args))

/-- the shape shared by the range-checked integer types: convert, test the range on the ORIGINAL argument, build
    (`coerceBT (.uint c) x` and `coerceBT .boolean x` are this `do` block by definition, which is all the two
    corollaries below use) -/
theorem ranged_accepts (x : Except Err Int) (r : Except Err Bool) (k : Int → FVal) :
    (∃ v, (do let n ← x; let ok ← r; if ok then pure (k n) else throw Err.valueError) = .ok v) ↔
      (∃ n, x = .ok n) ∧ r = .ok true := by
  cases x with
  | error e => simp [bind, Except.bind]
  | ok n =>
    cases r with
    | error e => simp [bind, Except.bind]
    | ok b => cases b <;> simp [bind, Except.bind, pure, Except.pure, throw, throwThe, MonadExceptOf.throw]

theorem uint_accepts (c : UCls) (x : Inp) :
    (∃ v, coerceBT (.uint c) x = .ok v) ↔
      (∃ n, intNew x = .ok n) ∧ inRange x (uBounds c).1 (uBounds c).2.1 (uBounds c).2.2 = .ok true :=
  ranged_accepts (intNew x) _ fun n => .uint c n (numOf x)

theorem boolean_accepts (x : Inp) :
    (∃ v, coerceBT .boolean x = .ok v) ↔
      (∃ n, intNew x = .ok n) ∧ inRange x Gen.booleanMin Gen.booleanMax Gen.booleanRejectsFractions = .ok true :=
  ranged_accepts (intNew x) _ fun _ => .boolean (truthy x)

theorem accepts_int_iff (n : Int) (a : Ann) (lo hi : Int) (fr : Bool) :
    (∃ m, intNew (.num (.int n) a) = .ok m) ∧ inRange (.num (.int n) a) lo hi fr = .ok true ↔ lo ≤ n ∧ n ≤ hi := by
  simp [intNew, inRange]

theorem digestPart_some {n : Nat} {i : Inp} {x : Str} (h : digestPart n i = .ok (some x)) :
    isHexStr x = true ∧ x.length = 2 * n := by
  refine digestPart.fun_cases_unfolding n (motive := fun _ r => r = .ok (some x) → isHexStr x = true ∧ x.length = 2 * n)
    ?none ?nonAscii ?notHex ?wrongLength ?accepted ?notText i h
  case accepted =>                -- the one branch that returns a text: no test has fired
    rintro _ _ _ _ h2 h3 ⟨⟩
    simp at h2 h3
    exact ⟨h2.2, h3⟩
  all_goals intros; rename_i e; cases e

end FlowRecord.Coerce
