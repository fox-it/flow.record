import FlowRecord.Model.Descriptor
import FlowRecordProofs.Lemmas.Rx
/-! Lemmas for C06: the identifier part of the two name patterns (`hasLang_identL`), `split` against joining,
    `fieldtype` on and off the whitelist, what a successful `RecordDescriptor(...)` implies. -/
namespace FlowRecord.Descriptor
open FlowRecord.Rx

theorem clsMem_alpha (y : Nat) : clsMem [(97, 122), (65, 90)] y = isAlpha y := by
  simp only [clsMem, List.any_cons, List.any_nil, isAlpha, Bool.or_false]
  rw [Bool.or_comm]

theorem clsMem_single (c y : Nat) : clsMem [(c, c)] y = (y == c) := by
  simp only [clsMem, List.any_cons, List.any_nil, Bool.or_false]
  rw [Bool.eq_iff_iff]; simp only [Bool.and_eq_true, decide_eq_true_eq, beq_iff_eq]; omega

theorem clsMem_identChar (y : Nat) : clsMem [(97, 122), (65, 90), (48, 57), (95, 95)] y = isIdentChar y := by
  have h := clsMem_single 95 y
  simp only [clsMem, List.any_cons, List.any_nil, isIdentChar, isAlpha, isDigit] at h ⊢
  rw [h, ← Bool.or_assoc, ← Bool.or_assoc, Bool.or_comm (decide (97 ≤ y) && decide (y ≤ 122))]

/-- Used as `ne_of_class h rfl`, which evaluates the class at `k`. -/
theorem ne_of_class {p : Nat → Bool} {c k : Nat} (h : p c = true) (hk : p k = false) : c ≠ k :=
  fun e => Bool.noConfusion ((e ▸ h).symm.trans hk)

theorem isAlpha_ne_slash {y : Nat} (h : isAlpha y = true) : y ≠ 47 :=
  ne_of_class h rfl

theorem isIdentL_cons (y : Nat) (seg : Str) : isIdentL (y :: seg) = (isAlpha y && seg.all isIdentChar) := by
  simp only [isIdentL, isIdent, isIdentStart, startsWithUnderscore]
  by_cases h : y = 95
  · subst h; simp [isAlpha]
  · have : (y == 95) = false := by simp [h]
    simp [this]

theorem isIdentL_iff (s : Str) :
    isIdentL s = true ↔ ∃ y t, s = y :: t ∧ isAlpha y = true ∧ t.all isIdentChar = true := by
  cases s with
  | nil => simp [isIdentL, isIdent]
  | cons y t =>
    rw [isIdentL_cons, Bool.and_eq_true]
    exact ⟨fun h => ⟨y, t, rfl, h⟩, fun ⟨_, _, e, h⟩ => by cases e; exact h⟩

/-- `[a-zA-Z][a-zA-Z0-9_]*`, the piece both name patterns are made of -/
theorem hasLang_identL :
    HasLang (.seq (.cls [(97, 122), (65, 90)]) (.star (.cls [(97, 122), (65, 90), (48, 57), (95, 95)])))
      fun w => isIdentL w = true :=
  ((hasLang_cls _).seq (hasLang_star_cls _)).congr fun w => by
    simp only [clsMem_alpha, funext clsMem_identChar, isIdentL_iff]
    exact ⟨fun ⟨_, t, hw, ⟨y, hy, ha⟩, ht⟩ => ⟨y, t, by rw [hw, hy]; rfl, ha, ht⟩,
      fun ⟨y, t, hw, ha, ht⟩ => ⟨[y], t, hw, ⟨y, rfl, ha⟩, ht⟩⟩

theorem isIdentL_chars {s : Str} (h : isIdentL s = true) : s.all isIdentChar = true := by
  obtain ⟨y, t, rfl, hy, ht⟩ := (isIdentL_iff s).mp h
  simp [isIdentChar, hy, ht]

theorem isIdentL_nameChars {s : Str} (h : isIdentL s = true) : s.all isNameChar = true :=
  List.all_eq_true.mpr fun c hc => by simp [isNameChar, List.all_eq_true.mp (isIdentL_chars h) c hc]

theorem isIdentL_no_slash {s : Str} (h : isIdentL s = true) : 47 ∉ s :=
  fun hm => ne_of_class (List.all_eq_true.mp (isIdentL_chars h) 47 hm) rfl rfl

theorem join_splitOn (sep : Nat) : ∀ s : Str, ∃ seg segs, splitOn sep s = seg :: segs ∧ s = seg ++ segs.flatMap (sep :: ·) := by
  intro s
  induction s with
  | nil => exact ⟨[], [], rfl, rfl⟩
  | cons c cs ih =>
    obtain ⟨seg, segs, h1, h2⟩ := ih
    by_cases h : c = sep
    · exact ⟨[], seg :: segs, by simp [splitOn, h, h1], by simp [h, ← h2]⟩
    · exact ⟨c :: seg, segs, by simp [splitOn, h, h1], by simp [← h2]⟩

theorem splitOn_append {sep : Nat} {seg t r : Str} {rs : List Str} (h : sep ∉ seg) (ht : splitOn sep t = r :: rs) :
    splitOn sep (seg ++ t) = (seg ++ r) :: rs := by
  induction seg with
  | nil => exact ht
  | cons c seg ih =>
    have hc : ¬ c = sep := fun e => h (by simp [e])
    simp [splitOn, hc, ih fun hm => h (List.mem_cons_of_mem _ hm)]

theorem splitOn_join {sep : Nat} {segs : List Str} {seg : Str} (h : sep ∉ seg) (hs : ∀ g ∈ segs, sep ∉ g) :
    splitOn sep (seg ++ segs.flatMap (sep :: ·)) = seg :: segs := by
  induction segs generalizing seg with
  | nil => simpa using splitOn_append h (t := []) rfl
  | cons g segs ih =>
    have := ih (hs g List.mem_cons_self) fun g' hg' => hs g' (List.mem_cons_of_mem _ hg')
    have ht : splitOn sep (sep :: (g ++ segs.flatMap (sep :: ·))) = [] :: g :: segs := by simp [splitOn, this]
    simpa using splitOn_append h ht

theorem isSlashIdents_iff (s : Str) : isSlashIdents s = true ↔
    ∃ (seg : Str) (segs : List Str), s = seg ++ segs.flatMap (47 :: ·) ∧ isIdentL seg = true ∧ ∀ g ∈ segs, isIdentL g = true := by
  unfold isSlashIdents
  constructor
  · intro h
    obtain ⟨seg, segs, h1, h2⟩ := join_splitOn 47 s
    rw [h1] at h
    simp only [List.all_cons, Bool.and_eq_true, List.all_eq_true] at h
    exact ⟨seg, segs, h2, h.1, h.2⟩
  · rintro ⟨seg, segs, rfl, h0, hs⟩
    rw [splitOn_join (isIdentL_no_slash h0) fun g hg => isIdentL_no_slash (hs g hg)]
    simp only [List.all_cons, Bool.and_eq_true, List.all_eq_true]
    exact ⟨h0, hs⟩

theorem isSlashIdents_nameChars {s : Str} (h : isSlashIdents s = true) : s.all isNameChar = true := by
  obtain ⟨seg, segs, rfl, h0, hs⟩ := (isSlashIdents_iff s).mp h
  rw [List.all_append, isIdentL_nameChars h0, List.all_flatMap]
  exact List.all_eq_true.mpr fun g hg => by simpa [isNameChar] using isIdentL_nameChars (hs g hg)

theorem isValidFieldName_eq (s : Str) (c : Bool) : isValidFieldName s c =
    if s ∈ reservedNames then !c else !startsWithUnderscore s && pyMatch Gen.RE_VALID_FIELD_NAME s := by
  unfold isValidFieldName
  cases startsWithUnderscore s <;> simp

theorem isValidFieldName_true (s : Str) : isValidFieldName s true = true ↔
    s ∉ reservedNames ∧ startsWithUnderscore s = false ∧ pyMatch Gen.RE_VALID_FIELD_NAME s = true := by
  rw [isValidFieldName_eq]
  split <;> simp [*]

theorem isListForm_append (w : Str) : isListForm (w ++ [91, 93]) = true := by
  simp [isListForm]

theorem stripList_append (w : Str) : stripList (w ++ [91, 93]) = w := by
  simp [stripList, isListForm_append]

theorem stripList_eq_self {t : Str} (h : isListForm t = false) : stripList t = t := by
  simp [stripList, h]

theorem fieldtype_refused {t : Str} (h : stripList t ∉ whitelist) : fieldtype t = ([], .error .invalidFieldType) := by
  simp [fieldtype, h]

theorem fieldtype_resolved {t : Str} (h : stripList t ∈ whitelist) : fieldtype t =
    ([.importModule (if (rpartitionDot (stripList t)).1.isEmpty then baseModule
        else baseModule ++ [46] ++ (rpartitionDot (stripList t)).1), .getattr (rpartitionDot (stripList t)).2] ++
      (if isListForm t then [.importModule baseModule] else []), .ok ⟨stripList t, isListForm t⟩) := by
  simp [fieldtype, h]

theorem resolveFields_cons (t n : Str) (rest : List (Str × Str)) : resolveFields ((t, n) :: rest) =
    if stripList t ∈ whitelist then
      ((fieldtype t).1 ++ (resolveFields rest).1, (resolveFields rest).2.map (⟨stripList t, isListForm t⟩ :: ·))
    else ([], .error .invalidFieldType) := by
  rw [resolveFields]
  by_cases h : stripList t ∈ whitelist
  · rw [if_pos h, fieldtype_resolved h]
    rcases resolveFields rest with ⟨eff', _ | _⟩ <;> rfl
  · rw [if_neg h, fieldtype_refused h]

theorem mem_resolveFields_fst {e : Effect} : ∀ {fs : List (Str × Str)}, e ∈ (resolveFields fs).1 →
    ∃ f ∈ fs, e ∈ (fieldtype f.1).1
  | [], h => nomatch h
  | (t, n) :: rest, h => by
    rw [resolveFields_cons] at h
    split at h
    · rcases List.mem_append.mp h with h | h
      · exact ⟨(t, n), List.mem_cons_self, h⟩
      · obtain ⟨f, hf, he⟩ := mem_resolveFields_fst h
        exact ⟨f, List.mem_cons_of_mem _ hf, he⟩
    · cases h

theorem resolveFields_ok : ∀ {fs : List (Str × Str)} {eff fts}, resolveFields fs = (eff, .ok fts) →
    ∀ g ∈ fs, stripList g.1 ∈ whitelist
  | [], _, _, _, g, hg => by cases hg
  | (t, n) :: rest, eff, fts, h, g, hg => by
    rw [resolveFields_cons] at h
    split at h
    · rcases List.mem_cons.mp hg with rfl | hg
      · assumption
      · rcases hr : resolveFields rest with ⟨eff', _ | fts'⟩
        · rw [hr] at h; cases h
        · exact resolveFields_ok hr g hg
    · cases h

/-! `construct` is taken apart along its own branches (`construct.fun_cases_unfolding`), named in source order: four
    refusals and CPython's, then success. -/

theorem mem_construct_fst {d : Desc} {e : Effect} (h : e ∈ (construct d).1) : e ∈ (resolveFields d.fields).1 := by
  refine construct.fun_cases_unfolding d (motive := fun r => e ∈ r.1 → e ∈ (resolveFields d.fields).1)
    ?noName ?badFieldName ?unresolved ?badTypeName ?execFails ?ok h
  case noName | badFieldName => intros; contradiction
  case unresolved | badTypeName | execFails | ok => intro _ _ _ _ hr; intros; exact hr ▸ ‹_›

theorem construct_ok {d : Desc} {sl : List Str} (h : (construct d).2 = .ok sl) :
    d.name.isEmpty = false ∧ (∀ f ∈ d.fields, isValidFieldName f.2 true = true) ∧
    (∀ f ∈ d.fields, stripList f.1 ∈ whitelist) ∧ isValidTypeName d.name = true ∧ execOk d = true ∧ sl = slots d := by
  refine construct.fun_cases_unfolding d (motive := fun r => r.2 = .ok sl → _)
    ?noName ?badFieldName ?unresolved ?badTypeName ?execFails ?ok h
  case ok =>
    rintro h1 h2 _ _ hr h3 h4 ⟨⟩
    exact ⟨by simpa using h1, by simpa using h2, resolveFields_ok hr, by simpa using h3, by simpa using h4,
      rfl⟩
  all_goals intros; contradiction

theorem construct_of_accepts {d : Desc} (h : accepts d = true) : ∃ sl, (construct d).2 = .ok sl := by
  unfold accepts at h
  split at h
  · exact ⟨_, ‹_›⟩
  · cases h

end FlowRecord.Descriptor
