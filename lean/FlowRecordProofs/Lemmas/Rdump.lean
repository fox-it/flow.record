import FlowRecord.Model.Rdump
import FlowRecordProofs.Lemmas.Readers
/-!
For C16. Where no source ends in something `record_stream` re-raises, the stream is the concatenation of what each
source's reader yields (`recordStream_flat`) and `pipeline` is the slice of that concatenation, every record through
the loop body (`pipeline_flat`); C16's statements about `pipeline` are this equation with what `readSource` yields
(`readSource_*`) put in.
-/
namespace FlowRecord.Rdump
open FlowRecord.Readers

variable {R V : Type}

theorem filterAfter_congr {E : Type} {m m' : Matcher R E} {xs : List R} (e : Option E) (h : ∀ x ∈ xs, m x = m' x) :
    filterAfter m xs e = filterAfter m' xs e := by
  induction xs with
  | nil => rfl
  | cons x t ih =>
    simp only [filterAfter, h x (by simp), ih (fun y hy => h y (by simp [hy]))]

theorem filterAfter_raise {E : Type} {m : Matcher R E} {p : R → Bool} {pre : List R} {r : R} (post : List R) {x : E}
    (e : Option E) (hpre : ∀ y ∈ pre, m y = .ok (p y)) (hr : m r = .error x) :
    filterAfter m (pre ++ r :: post) e = ⟨pre.filter p, some x⟩ := by
  induction pre with
  | nil => simp [filterAfter, hr, Run.fail]
  | cons y t ih =>
    have hy := hpre y (by simp)
    have := ih (fun z hz => hpre z (by simp [hz]))
    simp only [List.cons_append, filterAfter, hy, this]
    cases hp : p y <;> simp [Run.cons, List.filter, hp]

theorem readSource_none (s : Source R) : readSource none s = ⟨s.readable, s.fails⟩ := rfl

/-- a missing source, under any selector -/
theorem readSource_nil (sel : Option (Matcher R ErrKind)) (e : Option ErrKind) : readSource sel ⟨[], e⟩ = ⟨[], e⟩ := by
  cases sel <;> rfl

theorem readSource_total {m : Matcher R ErrKind} {p : R → Bool} {s : Source R}
    (h : ∀ r ∈ s.readable, m r = .ok (p r)) : readSource (some m) s = ⟨s.readable.filter p, s.fails⟩ :=
  filterAfter_total m p s.readable s.fails h

theorem flatMap_readSource_total {m : Matcher R ErrKind} {p : R → Bool} {srcs : List (Source R)}
    (h : ∀ s ∈ srcs, ∀ r ∈ s.readable, m r = .ok (p r)) :
    srcs.flatMap (fun s => (readSource (some m) s).out) = (srcs.flatMap (·.readable)).filter p := by
  induction srcs with
  | nil => rfl
  | cons s t ih =>
    simp [readSource_total (h s (by simp)), ih fun x hx => h x (by simp [hx])]

/-- No source ends with, and the selector never raises, something `record_stream` re-raises. -/
def Continues (handlers : List (String × String)) (sel : Option (Matcher R ErrKind)) (srcs : List (Source R)) : Prop :=
  ∀ s ∈ srcs, ∀ e, (readSource sel s).err = some e → actionIn handlers e = "next"

/-- `Continues` for the extracted handlers (`recordStream_flat`): only a KeyboardInterrupt is re-raised. For rdump's
    records this is `C16_NoInterrupt`. -/
def NoInterrupt (sel : Option (Matcher R ErrKind)) (srcs : List (Source R)) : Prop :=
  ∀ s ∈ srcs, (readSource sel s).err ≠ some .interrupt

theorem noInterrupt_total {m : Matcher R ErrKind} {p : R → Bool} {srcs : List (Source R)}
    (hm : ∀ s ∈ srcs, ∀ r ∈ s.readable, m r = .ok (p r)) (hni : ∀ s ∈ srcs, s.fails ≠ some .interrupt) :
    NoInterrupt (some m) srcs := by
  intro s hs
  rw [readSource_total (hm s hs)]
  exact hni s hs

theorem recordStreamIn_flat {handlers : List (String × String)} {sel : Option (Matcher R ErrKind)}
    {srcs : List (Source R)} (h : Continues handlers sel srcs) :
    recordStreamIn handlers sel srcs = ⟨srcs.flatMap (fun s => (readSource sel s).out), none⟩ := by
  induction srcs with
  | nil => rfl
  | cons s rest ih =>
    have ih' := ih (fun x hx => h x (by simp [hx]))
    simp only [recordStreamIn, ih', List.flatMap_cons]
    cases he : (readSource sel s).err with
    | none => rfl
    | some e =>
      have := h s (by simp) e he
      simp [this]

theorem continues_append (handlers : List (String × String)) (sel : Option (Matcher R ErrKind))
    (a b : List (Source R)) : Continues handlers sel (a ++ b) ↔ Continues handlers sel a ∧ Continues handlers sel b :=
  List.forall_mem_append

theorem recordStreamIn_congr (handlers : List (String × String)) (sel sel' : Option (Matcher R ErrKind))
    {srcs : List (Source R)} (h : ∀ s ∈ srcs, readSource sel s = readSource sel' s) :
    recordStreamIn handlers sel srcs = recordStreamIn handlers sel' srcs := by
  induction srcs with
  | nil => rfl
  | cons s t ih => simp only [recordStreamIn, h s (by simp), ih fun x hx => h x (by simp [hx])]

theorem action_io : action .io = "next" := by decide
theorem action_other : action .other = "next" := by decide
theorem flag_stop_none : Gen.rdumpStopNoneWhenCountFalsy = true := rfl
theorem loopOrder_eq : Gen.rdumpLoopOrder = ["source", "classification", "rewrite", "emit"] := rfl

theorem recordStream_flat {sel : Option (Matcher R ErrKind)} {srcs : List (Source R)} (h : NoInterrupt sel srcs) :
    recordStream sel srcs = ⟨srcs.flatMap (fun s => (readSource sel s).out), none⟩ := by
  refine recordStreamIn_flat fun s hs e he => ?_
  cases e with
  | io => exact action_io
  | other => exact action_other
  | interrupt => exact absurd he (h s hs)

theorem islice_spec {α : Type} (xs : List α) (skip : Nat) (count : Option Nat) :
    islice xs skip (sliceStop skip count) = sliceSpec skip count xs := by
  cases count with
  | none => rfl
  | some c =>
    cases c <;> simp [sliceStop, flag_stop_none, islice, sliceSpec, List.take_drop, Nat.add_comm]

theorem perRecord_eq (o : Opts V) (r : Rec V) :
    perRecord o r = project o.fields o.exclude
      { r with source := o.source.getD r.source, classification := o.classification.getD r.classification } := by
  have h : perRecord o r =
      project o.fields o.exclude (overrideClassification o.classification (overrideSource o.source r)) := by
    simp [perRecord, perRecordIn, loopOrder_eq, applyStep]
  rw [h]
  cases o.source <;> cases o.classification <;> rfl

theorem project_nil (r : Rec V) : project [] [] r = r := rfl

theorem project_eq (F X : List String) (r : Rec V) :
    project F X r = { r with fields :=
      if F = [] then r.fields.filter (fun f => !X.contains f.2.1)
      else (F.filter (fun n => !X.contains n)).filterMap (fun n => r.fields.find? (fun f => f.2.1 == n)) } := by
  cases F with
  | cons a t => rfl
  | nil =>
    cases X with
    | cons a t => rfl
    | nil => exact congrArg (fun fs => { r with fields := fs }) (List.filter_eq_self.mpr fun _ _ => rfl).symm

theorem flatMap_singleton' {α : Type} (l : List α) : l.flatMap (fun x => [x]) = l :=
  List.flatMap_singleton' l

theorem filterMap_find_names (r : Rec V) (ns : List String) :
    (ns.filterMap (fun n => r.fields.find? (fun f => f.2.1 == n))).map (·.2.1)
      = ns.filter (fun n => r.fieldNames.contains n) := by
  induction ns with
  | nil => rfl
  | cons n t ih =>
    cases hf : r.fields.find? (fun f => f.2.1 == n) with
    | none =>
      have : n ∉ r.fieldNames := fun hm => by
        obtain ⟨f, hfm, rfl⟩ := List.mem_map.mp hm
        simpa using List.find?_eq_none.mp hf f hfm
      simp [hf, this, ih]
    | some f =>
      have hn : f.2.1 = n := by simpa using List.find?_some hf
      have : n ∈ r.fieldNames := List.mem_map.mpr ⟨f, List.mem_of_find?_eq_some hf, hn⟩
      simp [hf, this, ih, hn]

/-- the expansion with the extracted `Gen.tsExpandKeepsMetadata = true` -/
theorem tsExpand_eq (strVal : String → V) (fm : V × V × V) (r : Rec V) :
    tsExpand strVal fm r =
      let dts := r.fields.filter (fun f => f.1 == "datetime")
      if dts.isEmpty then [r] else dts.map fun f =>
        { r with fields := (tsField.1, tsField.2, f.2.2) :: (tsDescField.1, tsDescField.2, strVal f.2.1) ::
                   r.fields.filter (fun g => g.2.1 != tsField.2 && g.2.1 != tsDescField.2) } := rfl

theorem pipeline_congr (strVal : String → V) (fm : V × V × V) (o : Opts V) {m m' : Matcher (Rec V) ErrKind}
    {srcs : List (Source (Rec V))} (h : ∀ s ∈ srcs, ∀ r ∈ s.readable, m r = m' r) :
    pipeline strVal fm o (some m) srcs = pipeline strVal fm o (some m') srcs := by
  simp only [pipeline, recordStream,
    recordStreamIn_congr _ (some m) (some m') fun s hs => filterAfter_congr _ (h s hs)]

theorem pipeline_flat (strVal : String → V) (fm : V × V × V) (o : Opts V) {sel : Option (Matcher (Rec V) ErrKind)}
    {srcs : List (Source (Rec V))} (h : NoInterrupt sel srcs) :
    pipeline strVal fm o sel srcs =
      let kept := sliceSpec o.skip o.count (srcs.flatMap fun s => (readSource sel s).out)
      if o.list then ⟨[], dedup (kept.map fun r => (perRecord o r).desc), kept.length, none⟩
      else ⟨kept.flatMap fun r => emit strVal fm o (perRecord o r), [], kept.length, none⟩ := by
  simp only [pipeline, recordStream_flat h, islice_spec, List.map_map, List.length_map, List.flatMap_map]
  rfl

theorem rdumpSelector_some (evalI evalC : String → Matcher R ErrKind) (e : String) (noCompile : Bool) :
    rdumpSelector evalI evalC (some e) noCompile
      = if e.isEmpty then none else some (if noCompile then evalI e else evalC e) := by
  cases noCompile <;> by_cases he : e.isEmpty <;>
    simp [rdumpSelector, makeSelector, mkInterp, mkCompiled, he, Sel.matcher]

end FlowRecord.Rdump
