import FlowRecord.Model.Rdump
/-!
Lemmas for C16's URI theorems. `splitOnce` on a concatenation gives `urlparse3` and `adapterOf` on text of the shape
`scheme://path?query`; on unreserved text `quote_plus` is the identity and `parse_qsl` finds the pairs back. Together:
user URI --rdump `--split`--> `split+scheme://path?count=..&suffix-length=..` --RecordAdapter--> user URI.
-/
namespace FlowRecord.Rdump

/-- The separator is given by its head (`hsep`, `rfl` at every call), so that the lemma applies to `schemeSep` and to
    the one-character literals alike without unfolding either in the statement it rewrites. -/
theorem splitOnce_first (sep : Str) {c0 : Char} {rest : Str} (hsep : sep = c0 :: rest) {a : Str} (b : Str)
    (hno : c0 ∉ a) : splitOnce sep (a ++ sep ++ b) = some (a, b) := by
  subst hsep
  induction a with
  | nil => simp [splitOnce]
  | cons x t ih =>
    obtain ⟨hx, ht⟩ : c0 ≠ x ∧ c0 ∉ t := by simpa using hno
    simpa [splitOnce, List.isPrefixOf, hx] using ih ht

theorem splitOnce_none (sep : Str) {c0 : Char} {rest : Str} (hsep : sep = c0 :: rest) {s : Str} (hno : c0 ∉ s) :
    splitOnce sep s = none := by
  subst hsep
  induction s with
  | nil => simp [splitOnce]
  | cons x t ih =>
    obtain ⟨hx, ht⟩ : c0 ≠ x ∧ c0 ∉ t := by simpa using hno
    simp [splitOnce, List.isPrefixOf, hx, ih ht]

theorem urlparse3_noquery {scheme np : Str} (hs : ':' ∉ scheme) (hq : '?' ∉ np) (hh : '#' ∉ np) :
    urlparse3 (scheme ++ schemeSep ++ np) = (scheme, np, []) := by
  simp only [urlparse3, splitOnce_first schemeSep rfl np hs, splitOnce_none ['#'] rfl hh, splitOnce_none ['?'] rfl hq]

theorem urlparse3_query {scheme np q : Str} (hs : ':' ∉ scheme) (hq : '?' ∉ np) (hh : '#' ∉ np) (hhq : '#' ∉ q) :
    urlparse3 (scheme ++ schemeSep ++ np ++ ['?'] ++ q) = (scheme, np, q) := by
  have e : scheme ++ schemeSep ++ np ++ ['?'] ++ q = scheme ++ schemeSep ++ (np ++ ['?'] ++ q) := by
    simp only [List.append_assoc]
  have h : '#' ∉ np ++ ['?'] ++ q := by simp [hh, hhq]
  simp only [urlparse3, e, splitOnce_first schemeSep rfl _ hs, splitOnce_none ['#'] rfl h, splitOnce_first ['?'] rfl q hq]

theorem adapterOf_plus {a scheme np q : Str} (ha : '+' ∉ a) (ha' : ':' ∉ a) (hs : ':' ∉ scheme) (hq : '?' ∉ np)
    (hh : '#' ∉ np) (hhq : '#' ∉ q) :
    adapterOf (a ++ ['+'] ++ scheme ++ schemeSep ++ np ++ ['?'] ++ q) = (a, scheme ++ schemeSep ++ np, parseQs q) := by
  have h : ':' ∉ a ++ ['+'] ++ scheme := by simp [ha', hs]
  simp only [adapterOf, urlparse3_query h hq hh hhq, splitOnce_first ['+'] rfl scheme ha]

def Plain (s : Str) : Prop := ∀ c ∈ s, isUnreserved c = true

theorem quotePlus_plain {s : Str} (h : Plain s) : quotePlus s = s := by
  rw [quotePlus, List.flatMap_def, List.map_congr_left fun c hc => if_pos (h c hc)]
  exact List.flatMap_singleton' s

theorem plain_notMem {s : Str} (h : Plain s) {c0 : Char} (h0 : isUnreserved c0 = false) : c0 ∉ s :=
  fun hc => by simp [h c0 hc] at h0

theorem pairs_none {q : Str} (h : splitOnce ['&'] q = none) (fuel : Nat) : parseQs.pairs q fuel = [q] := by
  cases fuel <;> simp [parseQs.pairs, h]

/-- text that holds a '&' has fuel for that split -/
theorem pairs_some {q a b : Str} (h : splitOnce ['&'] q = some (a, b)) :
    ∃ fuel, parseQs.pairs q q.length = a :: parseQs.pairs b fuel := by
  cases q with
  | nil => simp [splitOnce] at h
  | cons c t => exact ⟨t.length, by simp [parseQs.pairs, h]⟩

theorem parseQs_nil : parseQs [] = [] := by decide

theorem parseQs_two {k1 v1 k2 v2 : Str} (hk1 : Plain k1) (hv1 : Plain v1) (hk2 : Plain k2) (hv2 : Plain v2)
    (hne1 : v1 ≠ []) (hne2 : v2 ≠ []) (hk : k1 ≠ k2) :
    parseQs (k1 ++ ['='] ++ v1 ++ ['&'] ++ k2 ++ ['='] ++ v2) = [(k1, v1), (k2, v2)] := by
  have amp : isUnreserved '&' = false := by decide
  have eq : isUnreserved '=' = false := by decide
  have e : k1 ++ ['='] ++ v1 ++ ['&'] ++ k2 ++ ['='] ++ v2 = (k1 ++ ['='] ++ v1) ++ ['&'] ++ (k2 ++ ['='] ++ v2) := by
    simp only [List.append_assoc]
  obtain ⟨fuel, s1⟩ := pairs_some (splitOnce_first ['&'] rfl (k2 ++ ['='] ++ v2)
    (show '&' ∉ k1 ++ ['='] ++ v1 by simp [plain_notMem hk1 amp, plain_notMem hv1 amp]))
  have s2 := pairs_none (splitOnce_none ['&'] rfl
    (show '&' ∉ k2 ++ ['='] ++ v2 by simp [plain_notMem hk2 amp, plain_notMem hv2 amp])) fuel
  have e1 := splitOnce_first ['='] rfl v1 (plain_notMem hk1 eq)
  have e2 := splitOnce_first ['='] rfl v2 (plain_notMem hk2 eq)
  simp only [parseQs, e, s1, s2, List.foldl, e1, e2]
  simp [hne1, hne2, hk]

-- A literal is `String.ofList` of its characters: `rw [String.toList_ofList]` hands them over, where evaluating
-- `.toList` would run the UTF-8 decoder.
theorem plain_count : Plain "count".toList := by unfold Plain; rw [String.toList_ofList]; decide
theorem plain_suffix : Plain "suffix-length".toList := by unfold Plain; rw [String.toList_ofList]; decide
theorem count_ne_suffix : "count".toList ≠ "suffix-length".toList := by
  rw [String.toList_ofList, String.toList_ofList]; decide

theorem splitQueryKeys_eq : Gen.rdumpSplitQueryKeys = ["count", "suffix-length"] := rfl
theorem queryKeys_eq : Gen.rdumpQueryKeys = ["fields", "exclude", "format_spec"] := rfl

theorem splitWrapS_eq {scheme path cs ls : Str} (hs : ':' ∉ scheme) (hq : '?' ∉ path) (hh : '#' ∉ path)
    (hcs : Plain cs) (hls : Plain ls) :
    splitWrapS (scheme ++ schemeSep ++ path) cs ls
      = "split+".toList ++ scheme ++ schemeSep ++ path ++ ['?'] ++
          ("count".toList ++ ['='] ++ cs ++ ['&'] ++ "suffix-length".toList ++ ['='] ++ ls) := by
  have e : "split+".toList ++ (scheme ++ schemeSep ++ path) = "split+".toList ++ scheme ++ schemeSep ++ path := by
    simp only [List.append_assoc]
  have h : ':' ∉ "split+".toList ++ scheme := by rw [String.toList_ofList]; simp [hs]
  have hd : ∀ k1 k2 : Str, k1 ≠ k2 → dictUpdate (dictUpdate [] k1 cs) k2 ls = [(k1, cs), (k2, ls)] :=
    fun k1 k2 hk => by simp [dictUpdate, hk]
  simp only [splitWrapS, splitOnce_first schemeSep rfl path hs, Option.isSome_some, if_true, e, urlparse3_noquery h hq hh,
    parseQs_nil, splitQueryKeys_eq, List.headD, List.drop, hd _ _ count_ne_suffix, urlencode, List.map, joinWith,
    quotePlus_plain plain_count, quotePlus_plain plain_suffix, quotePlus_plain hcs, quotePlus_plain hls]
  simp only [List.append_assoc]

theorem adapterOf_splitWrapS {scheme path cs ls : Str} (hs : ':' ∉ scheme) (hq : '?' ∉ path) (hh : '#' ∉ path)
    (hcs : Plain cs) (hls : Plain ls) (hcs0 : cs ≠ []) (hls0 : ls ≠ []) :
    adapterOf (splitWrapS (scheme ++ schemeSep ++ path) cs ls)
      = ("split".toList, scheme ++ schemeSep ++ path, [("count".toList, cs), ("suffix-length".toList, ls)]) := by
  have hu : isUnreserved '#' = false := by decide
  have hhq : ∀ k1 k2 : Str, Plain k1 → Plain k2 → '#' ∉ k1 ++ ['='] ++ cs ++ ['&'] ++ k2 ++ ['='] ++ ls :=
    fun k1 k2 h1 h2 => by simp [plain_notMem h1 hu, plain_notMem h2 hu, plain_notMem hcs hu, plain_notMem hls hu]
  have hsplit : "split+".toList = "split".toList ++ ['+'] ∧ '+' ∉ "split".toList ∧ ':' ∉ "split".toList := by
    rw [String.toList_ofList, String.toList_ofList]; decide
  rw [splitWrapS_eq hs hq hh hcs hls, hsplit.1, adapterOf_plus hsplit.2.1 hsplit.2.2 hs hq hh (hhq _ _ plain_count plain_suffix),
    parseQs_two plain_count hcs plain_suffix hls hcs0 hls0 count_ne_suffix]

theorem baseUri_bare (p : Present) (hw : p.writer = none) (hf : p.format = none) :
    baseUri p none none =
      (let uri := ((p.mode.bind (lookupStr Gen.modeToUri)).getD Gen.rdumpDefaultUri).toList
       uri ++ (if hasQuery uri then ['&'] else ['?'])) := by
  have hq : ∀ g : String × Option String → Option (Str × Str), (∀ k, g (k, none) = none) →
      (Gen.rdumpQueryKeys.zip [none, none, none]).filterMap g = [] := by
    intro g hg; simp [queryKeys_eq, hg]
  simp only [baseUri, hw, hf]
  rw [hq _ (fun _ => rfl)]
  split <;> simp [urlencode, joinWith]

theorem plain_natStr (n : Nat) : Plain (natStr n) ∧ natStr n ≠ [] := by
  have e : natStr n = Nat.toDigits 10 n := by simp [natStr, toString, Nat.repr]
  rw [e]
  refine ⟨fun c hc => ?_, Nat.toDigits_ne_nil⟩
  have := Nat.isDigit_of_mem_toDigits (by decide) (by decide) hc
  simp [isUnreserved, Char.isAlphanum, this]

end FlowRecord.Rdump
