import FlowRecord.Model.Stream
/-! The descriptor registry (C03): the abstract reader over what the abstract writer emits, for histories in which
    writes may raise; and the refinement `writeEntry_eq`: the byte-level writer is the abstract one, encoded frame by
    frame, for a call that succeeds and for one that raises alike. -/
open FlowRecord.Wire FlowRecord.Msgpack
namespace FlowRecord.Stream

theorem mapM_cons_eq_some {α β : Type} {f : α → Option β} {a : α} {l : List α} {bs : List β} :
    (a :: l).mapM f = some bs ↔ ∃ b bs', f a = some b ∧ l.mapM f = some bs' ∧ b :: bs' = bs := by
  simp [List.mapM_cons, Option.bind_eq_some_iff]

theorem mapM_length {α β : Type} {f : α → Option β} {l : List α} {bs : List β} (h : l.mapM f = some bs) :
    bs.length = l.length := by
  induction l generalizing bs with
  | nil => simp at h; simp [h]
  | cons a l ih => obtain ⟨b, bs', -, h', rfl⟩ := mapM_cons_eq_some.mp h; simp [ih h']

theorem lookup_regInsert (reg : Registry) (d : Desc) (name : Utf8.PyStr) (hash : Nat) :
    lookup (regInsert reg d) name hash = if name = d.name ∧ hash = d.hash then some d else lookup reg name hash := by
  unfold lookup regInsert
  rw [List.find?_cons, List.find?_filter]
  by_cases h : name = d.name ∧ hash = d.hash
  · simp [h]
  · have h1 : (d.name == name && d.hash == hash) = false := by
      rw [← Bool.not_eq_true, Bool.and_eq_true, beq_iff_eq, beq_iff_eq]
      exact fun ⟨a, b⟩ => h ⟨a.symm, b.symm⟩
    rw [h1, if_neg h]
    show Option.map _ (List.find? _ reg) = _
    congr 2; funext e
    cases he : (e.1.1 == name && e.1.2 == hash)
    · simp
    · -- an entry under the key looked up is not under `d`'s key, so the filter kept it
      simp only [Bool.and_eq_true, beq_iff_eq] at he
      have h2 : (e.1.1 == d.name && e.1.2 == d.hash) = false := by
        rw [he.1, he.2, ← Bool.not_eq_true, Bool.and_eq_true, beq_iff_eq, beq_iff_eq]; exact h
      simp [h2]

theorem lookup_of_needsRegister_false (hg : Gen.writerGuardKind = "descriptor-comparison") (reg : Registry) (d : Desc)
    (h : needsRegister reg d = false) : lookup reg d.name d.hash = some d := by
  unfold needsRegister at h
  cases hl : lookup reg d.name d.hash with
  | none => simp [hl] at h
  | some d' => simpa [hl, hg] using h

theorem lookup_newDescs_preserved (ds : List Desc) (reg : Registry) (d : Desc)
    (hl : lookup reg d.name d.hash = some d)
    (hc : ∀ d' ∈ ds, d'.name = d.name → d'.hash = d.hash → d' = d) :
    lookup (newDescs reg ds).1 d.name d.hash = some d := by
  induction ds generalizing reg with
  | nil => exact hl
  | cons x xs ih =>
    have hxs := fun d' hd' => hc d' (List.mem_cons_of_mem x hd')
    simp only [newDescs]
    split
    · refine ih _ ?_ hxs
      rw [lookup_regInsert]
      split
      · next h => rw [hc x (by simp) h.1.symm h.2.symm]
      · exact hl
    · exact ih reg hl hxs

theorem lookup_after_newDescs (hg : Gen.writerGuardKind = "descriptor-comparison") (ds : List Desc) (reg : Registry)
    (hn : NoInnerCollision ds) :
    ∀ d ∈ ds, lookup (newDescs reg ds).1 d.name d.hash = some d := by
  induction ds generalizing reg with
  | nil => simp
  | cons x xs ih =>
    have hnx : NoInnerCollision xs := fun a ha b hb => hn a (by simp [ha]) b (by simp [hb])
    have hx : ∀ reg', lookup reg' x.name x.hash = some x → lookup (newDescs reg' xs).1 x.name x.hash = some x :=
      fun reg' h => lookup_newDescs_preserved xs reg' x h fun d' hd' => hn d' (by simp [hd']) x (by simp)
    simp only [newDescs, List.forall_mem_cons]
    split
    · exact ⟨hx _ (by simp [lookup_regInsert]), ih _ hnx⟩
    · next hnr => exact ⟨hx _ (lookup_of_needsRegister_false hg reg x (by simpa using hnr)), ih _ hnx⟩

theorem consumeReg_append (reg : Registry) (a b : List AFrame) :
    consumeReg reg (a ++ b) = consumeReg (consumeReg reg a) b := by
  induction a generalizing reg with
  | nil => rfl
  | cons f fs ih => cases f <;> exact ih _

theorem consume_append (reg : Registry) (a b : List AFrame) :
    consume reg (a ++ b) = consume reg a ++ consume (consumeReg reg a) b := by
  induction a generalizing reg with
  | nil => rfl
  | cons f fs ih => cases f <;> simp [consume, consumeReg, ih]

theorem consumeReg_newDescs (ds : List Desc) (reg : Registry) :
    consumeReg reg ((newDescs reg ds).2.map AFrame.desc) = (newDescs reg ds).1 := by
  induction ds generalizing reg with
  | nil => rfl
  | cons x xs ih =>
    simp only [newDescs]
    split
    · exact ih _
    · exact ih reg

theorem consume_descs (ds : List Desc) (reg : Registry) : consume reg (ds.map AFrame.desc) = [] := by
  induction ds generalizing reg with
  | nil => rfl
  | cons x xs ih => exact ih _

theorem consumeReg_emit (reg : Registry) (o : PV) : consumeReg reg (emit reg o).2 = (emit reg o).1 := by
  simp [emit, consumeReg_append, consumeReg_newDescs, consumeReg]

theorem consume_emit (hg : Gen.writerGuardKind = "descriptor-comparison") (reg : Registry) (o : PV)
    (hn : NoInnerCollision (descsOf o)) : consume reg (emit reg o).2 = [(o, (descsOf o).map some)] := by
  simp only [emit, consume_append, consume_descs, consumeReg_newDescs, consume, List.nil_append, List.cons.injEq,
    Prod.mk.injEq, true_and, and_true]
  exact List.map_congr_left (lookup_after_newDescs hg (descsOf o) reg hn)

/-- one entry of a history (`emitHist`, `writeHist`): an object, written (`none`) or raising after `k` descriptors -/
abbrev Entry := PV × Option Nat

/-- One entry of a history, succeeding or raising, as one function (`writeEntry`: for the byte-level writer), so that
    what holds of both outcomes is said and proved once. -/
def emitEntry (reg : Registry) : Entry → Registry × List AFrame
  | (o, none) => emit reg o
  | (o, some k) => emitFailed reg o k

def writeEntry (st : WState) : Entry → Option (WState × List Bytes)
  | (o, none) => write st o
  | (o, some k) => writeFailed st o k

theorem emitHist_cons (reg : Registry) (e : Entry) (es : List Entry) :
    emitHist reg (e :: es) =
      ((emitHist (emitEntry reg e).1 es).1, (emitEntry reg e).2 ++ (emitHist (emitEntry reg e).1 es).2) := by
  obtain ⟨o, _ | k⟩ := e <;> rfl

theorem consumeReg_emitEntry (reg : Registry) (e : Entry) :
    consumeReg reg (emitEntry reg e).2 = (emitEntry reg e).1 := by
  obtain ⟨o, _ | k⟩ := e
  · exact consumeReg_emit reg o
  · exact consumeReg_newDescs _ reg

theorem consume_emitHist (hg : Gen.writerGuardKind = "descriptor-comparison") (hist : List Entry)
    (reg : Registry) (hn : ∀ e ∈ hist, e.2 = none → NoInnerCollision (descsOf e.1)) :
    consume reg (emitHist reg hist).2 =
      (hist.filter (fun e => e.2.isNone)).map (fun e => (e.1, (descsOf e.1).map some)) := by
  induction hist generalizing reg with
  | nil => rfl
  | cons e os ih =>
    rw [emitHist_cons, consume_append, consumeReg_emitEntry, ih _ fun e he => hn e (List.mem_cons_of_mem _ he)]
    obtain ⟨o, _ | k⟩ := e
    · exact congrArg (· ++ _) (consume_emit hg reg o (hn (o, none) (by simp) rfl))
    · exact congrArg (· ++ _) (consume_descs _ reg)

theorem consumeReg_emitHist (hist : List Entry) (reg : Registry) :
    consumeReg reg (emitHist reg hist).2 = (emitHist reg hist).1 := by
  induction hist generalizing reg with
  | nil => rfl
  | cons e os ih => rw [emitHist_cons, consumeReg_append, consumeReg_emitEntry, ih]

/-- the body of an abstract frame, as `write` encodes it -/
def encFrame : AFrame → Option Bytes
  | .desc d => (toM (.desc d)).map enc
  | .obj o => (toM o).map enc

/-- the header frames this call still has to write: one for a fresh writer, none afterwards (the `let header` of
    `write` and `writeFailed`) -/
def headerFrames (st : WState) : List Bytes := if st.headerWritten then [] else [magicBody]

theorem headerFrames_of_written {st : WState} (h : st.headerWritten = true) : headerFrames st = [] :=
  if_pos h

theorem writeEntry_eq (st : WState) (e : Entry) :
    writeEntry st e = ((emitEntry st.registry e).2.mapM encFrame).map fun bs =>
      ({ headerWritten := true, registry := (emitEntry st.registry e).1 }, headerFrames st ++ bs) := by
  have hd : encFrame ∘ AFrame.desc = fun d => (toM (.desc d)).map enc := rfl
  obtain ⟨o, _ | k⟩ := e
  · simp only [writeEntry, emitEntry, write, emit, List.mapM_append, List.mapM_map, List.mapM_cons, List.mapM_nil,
      hd, encFrame]
    generalize List.mapM (m := Option) _ _ = x; generalize Option.map enc (toM o) = y
    cases x <;> cases y <;> simp [headerFrames]
  · simp only [writeEntry, emitEntry, writeFailed, emitFailed, List.mapM_map, hd]
    generalize List.mapM (m := Option) _ _ = x
    cases x <;> rfl

theorem writeEntry_some {st st1 : WState} {e : Entry} {f1 : List Bytes}
    (h : writeEntry st e = some (st1, f1)) :
    ∃ bs, (emitEntry st.registry e).2.mapM encFrame = some bs ∧ f1 = headerFrames st ++ bs ∧
      st1 = { headerWritten := true, registry := (emitEntry st.registry e).1 } := by
  obtain ⟨bs, hb, h⟩ := Option.map_eq_some_iff.mp ((writeEntry_eq st e).symm.trans h)
  cases h
  exact ⟨bs, hb, rfl, rfl⟩

theorem writeEntry_matches {st st' : WState} {e : Entry} {fs : List Bytes}
    (h : writeEntry st e = some (st', fs)) :
    st'.registry = (emitEntry st.registry e).1 ∧
    fs.length = (if st.headerWritten then 0 else 1) + (emitEntry st.registry e).2.length := by
  obtain ⟨bs, hb, rfl, rfl⟩ := writeEntry_some h
  exact ⟨rfl, by rw [List.length_append, mapM_length hb, headerFrames]; split <;> rfl⟩

theorem writeEntry_written {st st1 : WState} {e : Entry} {f1 : List Bytes} (hhdr : st.headerWritten = true)
    (h : writeEntry st e = some (st1, f1)) :
    (emitEntry st.registry e).2.mapM encFrame = some f1 ∧ st1.registry = (emitEntry st.registry e).1 ∧
      st1.headerWritten = true := by
  obtain ⟨bs, hb, rfl, rfl⟩ := writeEntry_some h
  rw [headerFrames_of_written hhdr]
  exact ⟨hb, rfl, rfl⟩

theorem writeHist_cons {st st' : WState} {e : Entry} {es : List Entry} {fs : List Bytes} :
    writeHist st (e :: es) = some (st', fs) ↔ ∃ st1 f1 f2, writeEntry st e = some (st1, f1) ∧
      writeHist st1 es = some (st', f2) ∧ f1 ++ f2 = fs := by
  have : writeHist st (e :: es) = (writeEntry st e).bind fun r1 => (writeHist r1.1 es).bind fun r2 =>
      some (r2.1, r1.2 ++ r2.2) := by
    obtain ⟨o, _ | k⟩ := e <;> rfl
  simp only [this, Option.bind_eq_some_iff, Option.some.injEq, Prod.mk.injEq, Prod.exists]
  constructor
  · rintro ⟨st1, f1, h1, st2, f2, h2, rfl, rfl⟩; exact ⟨st1, f1, f2, h1, h2, rfl⟩
  · rintro ⟨st1, f1, f2, h1, h2, rfl⟩; exact ⟨st1, f1, h1, _, f2, h2, rfl, rfl⟩

/-- a history without failing writes, as a history -/
abbrev allOk (os : List PV) : List Entry := os.map fun o => (o, none)

theorem take_all_ok (os : List PV) (i : Nat) : (allOk os).take i = allOk (os.take i) :=
  List.map_take.symm

theorem emitHist_all_ok (os : List PV) (reg : Registry) : emitHist reg (allOk os) = emitAll reg os := by
  induction os generalizing reg with
  | nil => rfl
  | cons o os ih => simp only [allOk, List.map_cons, emitHist, emitAll, ih]

theorem writeHist_all_ok (os : List PV) (st : WState) : writeHist st (allOk os) = writeAll st os := by
  induction os generalizing st with
  | nil => rfl
  | cons o os ih => simp only [allOk, List.map_cons, writeHist, writeAll, ih]

end FlowRecord.Stream
