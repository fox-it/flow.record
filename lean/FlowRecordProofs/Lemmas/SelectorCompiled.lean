import FlowRecordProofs.Lemmas.SelectorAgree
/-!
C07, compiled engine: `CompiledSelector.match` is Python's `eval` in the namespace {helpers, `net`, `r` ↦ wrapped
record, `Type`} + builtins, in the model `refEval` with `compiled := true`; the documented meaning is
`compiled := false`. The two differ in which global names exist, in what a missing attribute and the sentinel do, in
dunder attributes and in which callables may be called. `SupportedC`: the shapes on which the two views coincide (names
bound alike in both namespaces, no dunder attribute, a callable that is a common name); it puts no condition on the
operators, the documented ones are `Supported`'s business (`C07_engines_agree` asks for both).
-/
namespace FlowRecord.Selector

/-- global names bound to the same object in both namespaces -/
def commonNames : List String := ["r", "Type"] ++ callableCommon

inductive SupportedC : List String → Expr → Prop
  | const (b c) : SupportedC b (.const c)
  | list (b es) : (∀ e ∈ es, SupportedC b e) → SupportedC b (.list es)
  | tuple (b es) : (∀ e ∈ es, SupportedC b e) → SupportedC b (.tuple es)
  | name (b id) : (id ∈ b ∨ commonNames.contains id = true) → SupportedC b (.name id)
  | attr (b v a) : hasPrefix "__" a = false → SupportedC b v → SupportedC b (.attr v a)
  | boolop (b op vs) : (∀ e ∈ vs, SupportedC b e) → SupportedC b (.boolop op vs)
  | binop (b op l r) : SupportedC b l → SupportedC b r → SupportedC b (.binop op l r)
  | unary (b op x) : SupportedC b x → SupportedC b (.unary op x)
  | compare (b l rest) : SupportedC b l → (∀ p ∈ rest, SupportedC b p.2) → SupportedC b (.compare l rest)
  | call (b fname args kwargs) : callableCommon.contains fname = true → fname ∉ b →
      (∀ a ∈ args, SupportedC b a) → (∀ k ∈ kwargs, SupportedC b k.2) →
      SupportedC b (.call (.name fname) args kwargs)
  | callGen (b fname c elt x iter ifs) : callableCommon.contains fname = true → fname ∉ b →
      consumerOf fname = some c → SupportedC b iter → (∀ i ∈ ifs, SupportedC (x :: b) i) → SupportedC (x :: b) elt →
      SupportedC b (.call (.name fname) [.genexp elt [(some x, iter, ifs)]] [])

variable {P : Prim} {R1 R2 : Env → Expr → Except Err PVal} {α β : Type}

def Refines (r1 r2 : Except Err α) : Prop := Good r2 → r1 = r2

/-- The induction hypothesis of `agreeC_ref`. -/
def AgreeC (R1 R2 : Env → Expr → Except Err PVal) : Prop :=
  ∀ env e, SupportedC (keys env) e → Refines (R1 env e) (R2 env e)

private theorem ok_bind (a : α) (f : α → Except Err β) : (Except.ok a >>= f) = f a := rfl

theorem refines_rfl (r : Except Err α) : Refines r r := fun _ => rfl

theorem refines_bad {r : Except Err α} {e : Err} (h : Bad e = true) : Refines r (.error e) :=
  fun hG => absurd (hG e rfl) (by simp [h])

theorem refines_bind {r1 r2 : Except Err α} {g1 g2 : α → Except Err β} (hr : Refines r1 r2)
    (hg : ∀ a, Refines (g1 a) (g2 a)) : Refines (r1 >>= g1) (r2 >>= g2) := by
  intro hG
  rw [hr (good_of_bind hG)]
  cases r2 with
  | error e => rfl
  | ok a => exact hg a hG

theorem refines_ite {c : Prop} [Decidable c] {a1 a2 b1 b2 : Except Err α} (h1 : Refines a1 b1) (h2 : Refines a2 b2) :
    Refines (if c then a1 else a2) (if c then b1 else b2) := by
  split <;> assumption

/-- the guard `!cfg.compiled && g` that the documented meaning (right) puts before arithmetic, membership and iteration,
    and Python (left) does not; `cfg` is a literal on both sides, whose `compiled` reduces to the `true` / `false` here -/
theorem refines_guard {g : Bool} {r1 r2 : Except Err α} (h : Refines r1 r2) :
    Refines (if !true && g then .error .undefined else r1) (if !false && g then .error .undefined else r2) := by
  cases g
  · exact h
  · exact refines_bad rfl

theorem refines_rList (hA : AgreeC R1 R2) (env : Env) (es : List Expr) (hS : ∀ e ∈ es, SupportedC (keys env) e) :
    Refines (rList R1 env es) (rList R2 env es) := by
  induction es with
  | nil => exact refines_rfl _
  | cons e es ih =>
    exact refines_bind (hA env e (hS e (by simp))) fun v =>
      refines_bind (ih fun x hx => hS x (by simp [hx])) fun vs => refines_rfl _

theorem refines_rKwargs (hA : AgreeC R1 R2) (env : Env) (es : List (String × Expr))
    (hS : ∀ k ∈ es, SupportedC (keys env) k.2) : Refines (rKwargs R1 env es) (rKwargs R2 env es) := by
  induction es with
  | nil => exact refines_rfl _
  | cons ke es ih =>
    exact refines_bind (hA env ke.2 (hS ke (by simp))) fun v =>
      refines_bind (ih fun x hx => hS x (by simp [hx])) fun vs => refines_rfl _

theorem refines_rBool (hA : AgreeC R1 R2) (env : Env) (isOr : Bool) (es : List Expr) (last : PVal)
    (hS : ∀ e ∈ es, SupportedC (keys env) e) :
    Refines (rBool P R1 env isOr es last) (rBool P R2 env isOr es last) := by
  induction es generalizing last with
  | nil => exact refines_rfl _
  | cons e es ih =>
    exact refines_bind (hA env e (hS e (by simp))) fun v =>
      refines_ite (refines_rfl _) (ih v fun x hx => hS x (by simp [hx]))

theorem refines_rCompare (rec : PVal) (op : String) (l r : PVal) :
    Refines (rCompare P { compiled := true, record := rec } op l r)
      (rCompare P { compiled := false, record := rec } op l r) := by
  unfold rCompare
  cases docCmp op with
  | none => exact refines_rfl _
  | some impl =>
    cases impl with
    | rich o | is_ | isNot => exact refines_rfl _
    -- the documented meaning refuses the sentinel and a typed matcher, Python does not
    | guardedIn | guardedNotIn => exact refines_guard (refines_rfl _)

theorem refines_rChain (rec : PVal) (hA : AgreeC R1 R2) (env : Env) (rest : List (String × Expr)) (left result : PVal)
    (hS : ∀ p ∈ rest, SupportedC (keys env) p.2) :
    Refines (rChain P { compiled := true, record := rec } R1 env left rest result)
      (rChain P { compiled := false, record := rec } R2 env left rest result) := by
  induction rest generalizing left result with
  | nil => exact refines_rfl _
  | cons oc rest ih =>
    exact refines_bind (hA env oc.2 (hS oc (by simp))) fun right =>
      refines_bind (refines_rCompare rec oc.1 left right) fun res =>
        refines_ite (refines_rfl _) (ih right res fun p hp => hS p (by simp [hp]))

theorem refines_rIfs (hA : AgreeC R1 R2) (env : Env) (cs : List Expr) (hS : ∀ e ∈ cs, SupportedC (keys env) e) :
    Refines (rIfs P R1 env cs) (rIfs P R2 env cs) := by
  induction cs with
  | nil => exact refines_rfl _
  | cons c cs ih =>
    exact refines_bind (hA env c (hS c (by simp))) fun v =>
      refines_ite (ih fun x hx => hS x (by simp [hx])) (refines_rfl _)

theorem refines_rForVals {b1 b2 : PVal → Except Err (Option Bool)} (hb : ∀ v, Refines (b1 v) (b2 v))
    (vals : List PVal) : Refines (rForVals b1 vals) (rForVals b2 vals) := by
  induction vals with
  | nil => exact refines_rfl _
  | cons v vs ih =>
    refine refines_bind (hb v) fun o => ?_
    cases o with
    | some b => exact refines_rfl _
    | none => exact ih

theorem refines_rLoop (rec : PVal) (hA : AgreeC R1 R2) (c : Consumer) {elt iter : Expr} {x : String}
    {ifs : List Expr} {env : Env} (hSit : SupportedC (keys env) iter)
    (hSi : ∀ i ∈ ifs, SupportedC (x :: keys env) i) (hSe : SupportedC (x :: keys env) elt) :
    Refines (rLoop P { compiled := true, record := rec } R1 c elt [(some x, iter, ifs)] env)
      (rLoop P { compiled := false, record := rec } R2 c elt [(some x, iter, ifs)] env) :=
  refines_bind (hA env iter hSit) fun _ =>
    refines_guard <| refines_bind (refines_rfl _) fun vals =>
      refines_rForVals (fun val =>
        refines_bind (refines_rIfs hA ((x, val) :: env) ifs hSi) fun _ =>
          refines_ite (refines_bind (hA ((x, val) :: env) elt hSe) fun _ => refines_rfl _) (refines_rfl _)) vals

theorem baseVal_of_allowed {n : String} (h : n ∈ allowedCalls) (rec : PVal) :
    n ∈ baseKeys ∧ baseVal rec n = .builtin n ∧ n ≠ "r" ∧ n ≠ "Type" := by
  obtain ⟨hb, hn⟩ := List.mem_filter.1 h
  simp only [nonCallableKeys, List.contains_cons, List.contains_nil, Bool.or_false, Bool.not_eq_true', Bool.or_eq_false_iff,
    beq_eq_false_iff_ne] at hn
  obtain ⟨h1, h2, h3, h4, h5⟩ := hn
  exact ⟨hb, by simp [baseVal, h1, h2, h3, h4, h5], h4, h5⟩

theorem refName_common (P : Prim) (rec : PVal) {n : String} (h : n ∈ callableCommon) :
    n ∈ allowedCalls ∧ refName P { compiled := true, record := rec } n = .ok (.builtin n) ∧
      refName P { compiled := false, record := rec } n = .ok (.builtin n) := by
  obtain ⟨ha, hnet⟩ := common_callables_allowed n h
  have ha : n ∈ allowedCalls := by simpa using ha
  obtain ⟨hb, hv, hr, ht⟩ := baseVal_of_allowed ha rec
  have hw : n ∈ Gen.FUNCTION_WHITELIST ∨ n ∈ pyBuiltinsModelled := List.mem_append.1 h
  exact ⟨ha, by simp [refName, hr, ht, hnet, hw], by simp [refName, hb, hv]⟩

theorem refStep_name_common (rec : PVal) (env : Env) (id : String)
    (h : id ∈ keys env ∨ commonNames.contains id = true) :
    refStep P { compiled := true, record := rec } R1 env (.name id) =
      refStep P { compiled := false, record := rec } R2 env (.name id) := by
  simp only [refStep]
  cases hl : env.lookup id with
  | some v => rfl
  | none =>
    rcases h with h | h
    · exact absurd h (lookup_eq_none_iff_keys.1 hl)
    · have hb : id ∈ baseKeys ∧ refName P { compiled := true, record := rec } id =
          refName P { compiled := false, record := rec } id := by
        simp only [commonNames, List.cons_append, List.nil_append, List.contains_cons, Bool.or_eq_true, beq_iff_eq] at h
        rcases h with h | h | h
        · subst h; exact ⟨r_Type_bound.1, by simp [refName, r_Type_bound.1, baseVal]⟩
        · subst h; exact ⟨r_Type_bound.2, by simp [refName, r_Type_bound.2, baseVal]⟩
        · obtain ⟨ha, h1, h2⟩ := refName_common P rec (List.contains_iff_mem.1 h)
          exact ⟨(baseVal_of_allowed ha rec).1, h1.trans h2.symm⟩
      simp [hb.1, hb.2]

theorem rTarget_common {b : Bool} {rec : PVal} {R : Env → Expr → Except Err PVal} {env : Env} {fname : String}
    {args : List Expr} {kwargs : List (String × Expr)} (hc : callableCommon.contains fname = true)
    (hb : fname ∉ keys env) :
    rTarget P { compiled := b, record := rec } R env (.name fname) args kwargs
      = .ok (.builtin fname, consumedGenexp fname args kwargs) := by
  obtain ⟨ha, h1, -⟩ := refName_common P rec (List.contains_iff_mem.1 hc)
  cases b
  · simp [rTarget, resolveAttrPath_name, ha]
  · simp only [rTarget, lookup_eq_none_iff_keys.2 hb, h1]
    rfl

theorem refines_refStep (rec : PVal) (hA : AgreeC R1 R2) (env : Env) (e : Expr) (hS : SupportedC (keys env) e) :
    Refines (refStep P { compiled := true, record := rec } R1 env e)
      (refStep P { compiled := false, record := rec } R2 env e) := by
  cases hS with
  | const _ c => exact refines_rfl _
  | list _ es h | tuple _ es h => exact refines_bind (refines_rList hA env es h) fun _ => refines_rfl _
  | name _ id h => exact refStep_name_common rec env id h ▸ refines_rfl _
  | attr _ v a ha hv =>
    simp only [refStep, ha, Bool.and_false, Bool.false_eq_true, if_false]
    refine refines_bind (hA env v hv) fun obj => ?_
    cases hg : P.getattr obj a with
    | some r => exact refines_rfl _
    | none => exact refines_bad rfl
  | boolop _ op vs h => exact refines_rBool hA env _ vs _ h
  | binop _ op l r hl hr =>
    exact refines_bind (hA env l hl) fun lv => refines_bind (hA env r hr) fun rv =>
      refines_guard (refines_rfl _)
  | unary _ op x hx => exact refines_ite (refines_bind (hA env x hx) fun _ => refines_rfl _) (refines_rfl _)
  | compare _ l rest hl hrest => exact refines_bind (hA env l hl) fun lv => refines_rChain rec hA env rest lv _ hrest
  | call _ fname args kwargs hc hb hSa hSk =>
    simp only [refStep, rCall, rTarget_common hc hb, ok_bind,
      consumedGenexp_eq_none fname kwargs fun _ _ hm => nomatch hSa _ hm]
    exact refines_bind (refines_rList hA env args hSa) fun a =>
      refines_bind (refines_rKwargs hA env kwargs hSk) fun k => refines_rfl _
  | callGen _ fname c elt x iter ifs hc hb hcons hSit hSi hSe =>
    simp only [refStep, rCall, rTarget_common hc hb, ok_bind, consumedGenexp_genexp hcons]
    exact refines_bind (refines_rLoop rec hA c hSit hSi hSe) fun _ => refines_rfl _

theorem agreeC_ref (P : Prim) (rec : PVal) (fuel : Nat) :
    AgreeC (refEval P { compiled := true, record := rec } fuel) (refEval P { compiled := false, record := rec } fuel) := by
  induction fuel with
  | zero => exact fun _ _ _ => refines_rfl _
  | succ n ih => exact fun env e hS => refines_refStep rec ih env e hS

end FlowRecord.Selector
