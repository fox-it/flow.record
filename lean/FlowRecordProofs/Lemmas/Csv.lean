import FlowRecord.Model.Csv
/-!
Lemmas for C20's CSV theorems. What `step` does on one character is stated once per mode and class of character
(section `step`); `run` is a left fold, so it splits over `++`, and the rest is rewriting with those equations: a
written cell takes the parser from a cell start (`StartMode`) to a cell end (`EndMode`) holding exactly that cell, a
delimiter saves it, the line terminator emits the row, at once or (terminator `\r`) with an end-of-line event still
due (`Between`). Then the rows the writer emits, per run of records of one descriptor (`csvRows_runs`), and `_asdict`
with the reader's lookup (`asdict_sub`, `zip_lookup`).
-/
namespace FlowRecord.Csv

theorem run_append (d : Ch) (s : St) (a b : List Ch) : run d s (a ++ b) = run d (run d s a) b := by
  simp [run, List.foldl_append]

theorem run_cons (d : Ch) (s : St) (c : Ch) (cs : List Ch) : run d s (c :: cs) = run d (step d s c) cs := rfl
theorem run_nil (d : Ch) (s : St) : run d s [] = s := rfl

structure DelimOk (d : Ch) : Prop where
  nq : d ≠ QUOTE
  ncr : d ≠ CR
  nlf : d ≠ LF

theorem quote_ne_CR : QUOTE ≠ CR := by decide
theorem quote_ne_LF : QUOTE ≠ LF := by decide

/-- a character an unquoted cell may contain -/
def Plain (d : Ch) (x : Ch) : Prop := x ≠ d ∧ x ≠ QUOTE ∧ x ≠ CR ∧ x ≠ LF

/-- a state without error; the two flags in the order of `St` -/
abbrev St.pend (m : Mode) (f : List Ch) (r : List Cell) (o : List Row) (pendCR opened : Bool) : St :=
  ⟨m, f, r, o, pendCR, opened, false⟩

/-- ... and with no end-of-line event due -/
abbrev St.ok (m : Mode) (f : List Ch) (r : List Cell) (o : List Row) (opened : Bool) : St :=
  St.pend m f r o false opened

def StartMode (m : Mode) (r : List Cell) : Prop := m = .startField ∨ (m = .startRecord ∧ r = [])

/-- the three modes in which a completed cell sits in `field`, waiting for the delimiter or the line end -/
def EndMode (m : Mode) : Prop := m = .startField ∨ m = .inField ∨ m = .quoteInQuoted

section step
variable {d : Ch} {m : Mode} {f : List Ch} {r : List Cell} {o : List Row} {op p : Bool} {x : Ch}
attribute [local simp] step feed pchar pStartField peol emit saveField addCh isNL clean

theorem step_start_plain (hm : StartMode m r) (hx : Plain d x) :
    step d (St.ok m [] r o op) x = St.ok .inField [x] r o true := by
  obtain ⟨h1, h2, h3, h4⟩ := hx
  rcases hm with rfl | ⟨rfl, _⟩ <;> simp [h1, h2, h3, h4]

theorem step_start_quote (hm : StartMode m r) :
    step d (St.ok m [] r o op) QUOTE = St.ok .inQuoted [] r o true := by
  rcases hm with rfl | ⟨rfl, _⟩ <;> simp [quote_ne_CR, quote_ne_LF]

theorem step_inField_plain (hx : Plain d x) :
    step d (St.ok .inField f r o op) x = St.ok .inField (x :: f) r o true := by
  obtain ⟨h1, _, h3, h4⟩ := hx
  simp [h1, h3, h4]

/-- inside quotes a line break is text: `\r`, `\n` and the end-of-line events only move the two flags -/
theorem step_inQuoted_ne (hx : x ≠ QUOTE) :
    step d (St.pend .inQuoted f r o p op) x = St.pend .inQuoted (x :: f) r o (x == CR) (x != LF) := by
  by_cases h1 : x = LF
  · subst h1
    cases p <;> simp [LF, CR, QUOTE]
  · by_cases h2 : x = CR
    · subst h2
      cases p <;> simp [LF, CR, QUOTE]
    · cases p <;> simp [h1, h2, hx]

theorem step_inQuoted_quote :
    step d (St.pend .inQuoted f r o p op) QUOTE = St.ok .quoteInQuoted f r o true := by
  cases p <;> simp [quote_ne_CR, quote_ne_LF]

theorem step_quoteInQuoted_quote :
    step d (St.ok .quoteInQuoted f r o op) QUOTE = St.ok .inQuoted (QUOTE :: f) r o true := by
  simp [quote_ne_CR, quote_ne_LF]

theorem step_delim (hd : DelimOk d) (hm : EndMode m ∨ (StartMode m r ∧ f = [])) :
    step d (St.ok m f r o op) d = St.ok .startField [] (f.reverse :: r) o true := by
  obtain ⟨h1, h2, h3⟩ := hd
  rcases hm with (rfl | rfl | rfl) | ⟨rfl | ⟨rfl, _⟩, _⟩ <;> simp [h1, h2, h3]

theorem step_end_CR (hd : DelimOk d) (hm : EndMode m) :
    step d (St.ok m f r o op) CR = St.pend .eatCRLF [] (f.reverse :: r) o true true := by
  have h : (13 : Nat) ≠ d := fun h => hd.ncr h.symm
  rcases hm with rfl | rfl | rfl <;> simp [CR, LF, QUOTE, h]

theorem step_end_LF (hd : DelimOk d) (hm : EndMode m) :
    step d (St.ok m f r o op) LF = clean ((f.reverse :: r).reverse :: o) := by
  have h : (10 : Nat) ≠ d := fun h => hd.nlf h.symm
  rcases hm with rfl | rfl | rfl <;> simp [CR, LF, QUOTE, h]

theorem step_clean_CR : step d (clean o) CR = St.pend .eatCRLF [] [] o true true := by
  simp [CR, LF]

theorem step_clean_LF : step d (clean o) LF = clean ([] :: o) := by
  simp [LF]

theorem step_pending_LF :
    step d (St.pend .eatCRLF [] r o true op) LF = clean (r.reverse :: o) := by
  simp [LF]

theorem step_pending {s : St} (he : s.err = false) (hp : s.pendCR = true) (hx : x ≠ LF) :
    step d s x = feed d (peol { s with pendCR := false }) x := by
  simp only [step, he, hp, hx, if_true, if_false, Bool.false_eq_true]

end step

/-! ### the parser over written text -/

theorem run_escape (d : Ch) (c : Cell) (f : List Ch) (r : List Cell) (o : List Row) (p op : Bool) :
    ∃ p' op', run d (St.pend .inQuoted f r o p op) (escape c) = St.pend .inQuoted (c.reverse ++ f) r o p' op' := by
  induction c generalizing f p op with
  | nil => exact ⟨p, op, by simp [escape, run_nil]⟩
  | cons x xs ih =>
    by_cases hx : x = QUOTE
    · subst hx
      obtain ⟨p', op', h⟩ := ih (QUOTE :: f) false true
      refine ⟨p', op', ?_⟩
      simp only [escape, if_true, run_cons, step_inQuoted_quote, step_quoteInQuoted_quote, h]
      simp
    · obtain ⟨p', op', h⟩ := ih (x :: f) (x == CR) (x != LF)
      refine ⟨p', op', ?_⟩
      simp only [escape, hx, if_false, run_cons, step_inQuoted_ne hx, h]
      simp

theorem run_inField_plain {d : Ch} {c : Cell} (f : List Ch) (r : List Cell) (o : List Row) (op : Bool)
    (h : ∀ x ∈ c, Plain d x) : ∃ op', run d (St.ok .inField f r o op) c = St.ok .inField (c.reverse ++ f) r o op' := by
  induction c generalizing f op with
  | nil => exact ⟨op, by simp [run_nil]⟩
  | cons x xs ih =>
    obtain ⟨op', h'⟩ := ih (x :: f) true (fun y hy => h y (List.mem_cons_of_mem _ hy))
    refine ⟨op', ?_⟩
    rw [run_cons, step_inField_plain (h x List.mem_cons_self), h']
    simp

theorem needsQuote_false {d : Ch} {lt : List Ch} {c : Cell} (h : needsQuote d lt c = false) :
    ∀ x ∈ c, x ≠ d ∧ x ≠ QUOTE ∧ x ∉ lt := by
  simpa [needsQuote, not_or, and_assoc] using h

/-- `csv.writer` quotes only the line breaks of the configured terminator: any other is written bare and splits the
    row -/
def SafeCell (lt : List Ch) (c : Cell) : Prop := ∀ x ∈ c, (x = CR ∨ x = LF) → x ∈ lt
instance (lt : List Ch) (c : Cell) : Decidable (SafeCell lt c) := by unfold SafeCell; infer_instance

theorem run_writeCell (d : Ch) {lt : List Ch} {c : Cell} {m : Mode} {r : List Cell} (o : List Row) (op : Bool)
    (hm : StartMode m r) (hs : SafeCell lt c) :
    ∃ m' op', run d (St.ok m [] r o op) (writeCell d lt c) = St.ok m' c.reverse r o op'
      ∧ (EndMode m' ∨ (c = [] ∧ m' = m)) := by
  by_cases hq : needsQuote d lt c = true
  · obtain ⟨p', op', h⟩ := run_escape d c [] r o false true
    refine ⟨.quoteInQuoted, true, ?_, .inl (.inr (.inr rfl))⟩
    simp only [writeCell, hq, if_true, run_cons, run_append, step_start_quote hm, h, run_nil,
      step_inQuoted_quote, List.append_nil]
  · have hq' : needsQuote d lt c = false := by simpa using hq
    have hp : ∀ x ∈ c, Plain d x := fun x hx =>
      have ⟨h1, h2, h3⟩ := needsQuote_false hq' x hx
      ⟨h1, h2, fun hc => h3 (hs x hx (.inl hc)), fun hc => h3 (hs x hx (.inr hc))⟩
    cases c with
    | nil =>
      -- an empty cell is written as nothing: the parser stays where the cell started
      exact ⟨m, op, by simp [writeCell, needsQuote, run_nil], .inr ⟨rfl, rfl⟩⟩
    | cons x xs =>
      obtain ⟨op', h⟩ := run_inField_plain [x] r o true (fun y hy => hp y (List.mem_cons_of_mem _ hy))
      refine ⟨.inField, op', ?_, .inl (.inr (.inl rfl))⟩
      have hw : writeCell d lt (x :: xs) = x :: xs := by simp [writeCell, hq']
      rw [hw, run_cons, step_start_plain hm (hp x List.mem_cons_self), h]
      simp

/-- The last cell is still in `field`, hence `f'.reverse :: r'`. Excluded is the lone empty cell at START_RECORD: it is
    written as nothing and leaves the parser in START_RECORD, no `EndMode` - which is why `writeRow` writes that row as
    `""`. -/
theorem run_cells {d : Ch} (hd : DelimOk d) {lt : List Ch} {cs : List Cell} {m : Mode} {r : List Cell} (o : List Row)
    (op : Bool) (hm : StartMode m r) (hs : ∀ c ∈ cs, SafeCell lt c) (hcs : cs ≠ [])
    (hne : m = .startRecord → cs ≠ [[]]) :
    ∃ m' f' r' op', run d (St.ok m [] r o op) (joinCells d (cs.map (writeCell d lt)))
        = St.ok m' f' r' o op' ∧ EndMode m' ∧ (f'.reverse :: r').reverse = r.reverse ++ cs := by
  induction cs generalizing m r op with
  | nil => exact absurd rfl hcs
  | cons c rest ih =>
    obtain ⟨m1, op1, h1, hm1⟩ := run_writeCell d o op hm (hs c List.mem_cons_self)
    cases rest with
    | nil =>
      refine ⟨m1, c.reverse, r, op1, by simpa [joinCells] using h1, ?_, by simp⟩
      rcases hm1 with h | ⟨rfl, rfl⟩
      · exact h
      · rcases hm with rfl | ⟨rfl, _⟩
        · exact .inl rfl
        · exact absurd rfl (hne rfl)
    | cons c2 rest2 =>
      have hend : EndMode m1 ∨ (StartMode m1 r ∧ c.reverse = []) :=
        hm1.imp_right fun ⟨hc, h⟩ => ⟨h ▸ hm, by simp [hc]⟩
      obtain ⟨m', f', r', op', h2, hm2, hrow⟩ :=
        ih (r := c :: r) true (.inl rfl) (fun x hx => hs x (List.mem_cons_of_mem _ hx)) (by simp) nofun
      refine ⟨m', f', r', op', ?_, hm2, ?_⟩
      · simp only [List.map_cons, joinCells, run_append, run_cons, h1, step_delim hd hend, List.reverse_reverse]
        simpa [List.map_cons] using h2
      · simp [hrow]

/-- between two rows: the parser is clean, or (terminator `\r`) becomes clean with the pending end-of-line event -/
def Between (lt : List Ch) (s : St) (o : List Row) : Prop :=
  s = clean o ∨ (lt = [CR] ∧ s.pendCR = true ∧ s.err = false ∧ peol { s with pendCR := false } = clean o)

/-- the terminators that can be read back: the parser ends a line on `\r`, `\n` or `\r\n` and on nothing else, whatever
    text the writer was given as `lineTerminator` -/
def LtOk (lt : List Ch) : Prop := lt = [CR, LF] ∨ lt = [LF] ∨ lt = [CR]

/-- `hCR`, `hLF`: in `s` a line break ends the row `r`; so it is after a cell (`step_end_*`) and on a clean parser
    (`step_clean_*`) -/
theorem run_lineEnd (d : Ch) {lt : List Ch} (hlt : LtOk lt) {s : St} {r : List Cell} {o : List Row}
    (hCR : step d s CR = St.pend .eatCRLF [] r o true true) (hLF : step d s LF = clean (r.reverse :: o)) :
    Between lt (run d s lt) (r.reverse :: o) := by
  rcases hlt with rfl | rfl | rfl
  · rw [run_cons, hCR, run_cons, step_pending_LF]; exact .inl rfl
  · rw [run_cons, hLF]; exact .inl rfl
  · rw [run_cons, hCR]; exact .inr ⟨rfl, rfl, rfl, rfl⟩

theorem step_between {d : Ch} {lt : List Ch} {s : St} {o : List Row} {x : Ch} (hb : Between lt s o)
    (hx : lt = [CR] → x ≠ LF) : step d s x = step d (clean o) x := by
  rcases hb with rfl | ⟨h1, h2, h3, h4⟩
  · rfl
  · rw [step_pending h3 h2 (hx h1), h4]; rfl

/-- after the terminator `\r` a leading `\n` would be swallowed as the rest of `\r\n`; a written cell starts with its
    quote or with a character that needs none -/
theorem writeCell_ne_LF_cons (d : Ch) {lt : List Ch} {c : Cell} (hs : SafeCell lt c) (t : List Ch) :
    writeCell d lt c ≠ LF :: t := by
  unfold writeCell
  split
  next => simp [quote_ne_LF]
  next hq =>
    rintro rfl
    exact (needsQuote_false (by simpa using hq) LF List.mem_cons_self).2.2
      (hs LF List.mem_cons_self (.inr rfl))

theorem writeRow_head_ne_LF {d : Ch} (hd : DelimOk d) {row : Row} (hs : ∀ c ∈ row, SafeCell [CR] c) :
    ∃ x rest, writeRow d [CR] row = x :: rest ∧ x ≠ LF := by
  -- after the first cell comes a delimiter or the terminator
  have key : ∀ (c : Cell) (y : Ch) (t : List Ch), c ∈ row → y ≠ LF →
      ∃ x rest, writeCell d [CR] c ++ y :: t = x :: rest ∧ x ≠ LF := by
    intro c y t hc hy
    cases hw : writeCell d [CR] c with
    | nil => exact ⟨y, t, rfl, hy⟩
    | cons a w => exact ⟨a, w ++ y :: t, rfl, fun h => writeCell_ne_LF_cons d (hs c hc) w (h ▸ hw)⟩
  unfold writeRow
  split
  · exact ⟨CR, [], rfl, by decide⟩
  split
  · exact ⟨QUOTE, _, rfl, quote_ne_LF⟩
  · match row, key with
    | [], _ => contradiction
    | [c], key => exact key c CR [] List.mem_cons_self (by decide)
    | c :: c2 :: rest, key =>
      rw [List.map_cons, List.map_cons, joinCells, List.append_assoc]
      exact key c d _ List.mem_cons_self hd.nlf

theorem run_writeRow_clean {d : Ch} (hd : DelimOk d) {lt : List Ch} (hlt : LtOk lt) {row : Row} (o : List Row)
    (hs : ∀ c ∈ row, SafeCell lt c) :
    Between lt (run d (clean o) (writeRow d lt row)) (row :: o) := by
  unfold writeRow
  split
  · next h =>
    subst h
    exact run_lineEnd d hlt step_clean_CR step_clean_LF
  split
  · next h =>
    -- the lone empty cell is written quoted: the closing quote leaves it completed, as after any quoted cell
    subst h
    rw [run_cons, run_cons, clean, step_start_quote (.inr ⟨rfl, rfl⟩), step_inQuoted_quote]
    exact run_lineEnd d hlt (step_end_CR hd (.inr (.inr rfl))) (step_end_LF hd (.inr (.inr rfl)))
  · next h1 h2 =>
    obtain ⟨m', f', r', op', h, hm, hrow⟩ :=
      run_cells hd o false (.inr ⟨rfl, rfl⟩) hs h1 (fun _ => h2)
    obtain rfl : (f'.reverse :: r').reverse = row := by simpa using hrow
    rw [run_append, clean, h]
    exact run_lineEnd d hlt (step_end_CR hd hm) (step_end_LF hd hm)

theorem run_writeRow {d : Ch} (hd : DelimOk d) {lt : List Ch} (hlt : LtOk lt) {row : Row} {s : St} {o : List Row}
    (hb : Between lt s o) (hs : ∀ c ∈ row, SafeCell lt c) :
    Between lt (run d s (writeRow d lt row)) (row :: o) := by
  have hclean := run_writeRow_clean hd hlt o hs
  rcases hb with rfl | hp
  · exact hclean
  · obtain rfl := hp.1
    obtain ⟨x, rest, hw, hx⟩ := writeRow_head_ne_LF hd hs
    rw [hw, run_cons] at hclean ⊢
    rwa [step_between (.inr hp) fun _ => hx]

theorem run_writeRows {d : Ch} (hd : DelimOk d) {lt : List Ch} (hlt : LtOk lt) {rows : List Row} {s : St}
    {o : List Row} (hb : Between lt s o) (hs : ∀ row ∈ rows, ∀ c ∈ row, SafeCell lt c) :
    Between lt (run d s (writeRows d lt rows)) (rows.reverse ++ o) := by
  induction rows generalizing s o with
  | nil => simpa [writeRows, run_nil] using hb
  | cons row rest ih =>
    have h1 := run_writeRow hd hlt hb (hs row List.mem_cons_self)
    have h2 := ih h1 (fun r hr => hs r (List.mem_cons_of_mem _ hr))
    simpa [writeRows, List.flatMap_cons, run_append] using h2

theorem finish_between {lt : List Ch} {s : St} {o : List Row} (hb : Between lt s o) : finish s = clean o := by
  rcases hb with h | ⟨_, h2, h3, h4⟩
  · subst h; simp [finish, clean]
  · rw [h3] at h4
    simp only [finish, h2, h3, Bool.or_true, if_true, if_false, Bool.false_eq_true]
    rw [h4]; simp [clean]

/-! ### the rows the writer emits, run by run -/

/-- what is written for one run (a group of `runs`), not a run of the parser: the header, then a row per record -/
def runRows (sel : Sel) : List Rec → List Row
  | [] => []
  | r :: g => header sel r :: (r :: g).map (cells sel)

/-- adjacent runs have different descriptors (so the runs are maximal) -/
def AdjDiff : List (List Rec) → Prop
  | (a :: _) :: (b :: g2) :: gs => a.desc ≠ b.desc ∧ AdjDiff ((b :: g2) :: gs)
  | _ => True

theorem runs_cons_cases (r : Rec) (rs : List Rec) :
    (rs = [] ∧ runs (r :: rs) = [[r]]) ∨
    ∃ r2 g gs, runs rs = (r2 :: g) :: gs ∧
      ((r.desc = r2.desc ∧ runs (r :: rs) = (r :: r2 :: g) :: gs) ∨
       (r.desc ≠ r2.desc ∧ runs (r :: rs) = [r] :: (r2 :: g) :: gs)) := by
  cases rs with
  | nil => exact .inl ⟨rfl, rfl⟩
  | cons r' rs' =>
    have ⟨r2, g, gs, h⟩ : ∃ r2 g gs, runs (r' :: rs') = (r2 :: g) :: gs := by
      unfold runs; split <;> (try split) <;> exact ⟨_, _, _, rfl⟩
    refine .inr ⟨r2, g, gs, h, ?_⟩
    by_cases hd : r.desc = r2.desc
    · exact .inl ⟨hd, by rw [runs, h]; simp [hd]⟩
    · exact .inr ⟨hd, by rw [runs, h]; simp [hd]⟩

theorem runs_spec (l : List Rec) :
    (runs l).flatten = l ∧ (∀ g ∈ runs l, g ≠ [] ∧ ∀ a ∈ g, ∀ b ∈ g, a.desc = b.desc) ∧ AdjDiff (runs l) := by
  induction l with
  | nil => simp [runs, AdjDiff]
  | cons r rs ih =>
    rcases runs_cons_cases r rs with ⟨rfl, h⟩ | ⟨r2, g, gs, hr, ⟨hd, h⟩ | ⟨hd, h⟩⟩ <;> rw [h]
    · simp [AdjDiff]
    · rw [hr] at ih
      obtain ⟨hf, hg, ha⟩ := ih
      have hu : ∀ a ∈ r :: r2 :: g, a.desc = r2.desc := by
        intro a ha
        rcases List.mem_cons.mp ha with rfl | ha
        · exact hd
        · exact (hg _ List.mem_cons_self).2 a ha r2 List.mem_cons_self
      refine ⟨by simpa using hf, ?_, ?_⟩
      · intro g' hg'
        rcases List.mem_cons.mp hg' with rfl | hg'
        · exact ⟨by simp, fun a ha b hb => (hu a ha).trans (hu b hb).symm⟩
        · exact hg g' (List.mem_cons_of_mem _ hg')
      · match gs, ha with
        | [], _ | [] :: _, _ => simp [AdjDiff]
        | (r3 :: g3) :: gs3, ha => exact ⟨hd ▸ ha.1, ha.2⟩
    · rw [hr] at ih
      obtain ⟨hf, hg, ha⟩ := ih
      refine ⟨by simpa using hf, ?_, hd, ha⟩
      intro g' hg'
      rcases List.mem_cons.mp hg' with rfl | hg'
      · exact ⟨by simp, by simp⟩
      · exact hg g' hg'

/-- `st` is the descriptor the writer already knows: a first run that has it gets no header -/
theorem csvRows_runs_gen (sel : Sel) (recs : List Rec) (st : Option (Name × List (Name × Name))) :
    csvRows sel st recs =
      match runs recs with
      | [] => []
      | g :: gs =>
        (match g with
          | [] => []
          | r :: _ => if st = some r.desc then g.map (cells sel) else runRows sel g) ++ gs.flatMap (runRows sel) := by
  induction recs generalizing st with
  | nil => simp [csvRows, runs]
  | cons r rs ih =>
    have ih' := ih (some r.desc)
    rcases runs_cons_cases r rs with ⟨rfl, h⟩ | ⟨r2, g, gs, hr, ⟨hd, h⟩ | ⟨hd, h⟩⟩ <;> rw [h]
    · simp only [csvRows]; split <;> simp [runRows]
    · rw [hr, hd] at ih'
      simp only [csvRows, hd, ih']; split <;> simp [runRows]
    · rw [hr] at ih'
      simp only [csvRows, ih', Option.some.injEq, hd, if_false]; split <;> simp [runRows]

theorem csvRows_runs (sel : Sel) (recs : List Rec) :
    csvRows sel none recs = (runs recs).flatMap (runRows sel) := by
  rw [csvRows_runs_gen]
  match h : runs recs with
  | [] => rfl
  | [] :: gs => exact absurd rfl ((runs_spec recs).2.1 [] (by simp [h])).1
  | (r :: g) :: gs => simp [List.flatMap_cons]

/-! ### `_asdict`, and the reader's lookup by column name -/

theorem lookup_mem {l : List (Name × Cell)} {k : Name} {v : Cell} (h : lookup l k = some v) : (k, v) ∈ l := by
  obtain ⟨q, hq, rfl⟩ := Option.map_eq_some_iff.mp h
  obtain rfl : q.1 = k := by simpa using List.find?_some hq
  exact List.mem_of_find?_eq_some hq

theorem asdict_sub (fields : Option (List Name)) (exclude : List Name) (slots : List (Name × Cell)) :
    ∀ p ∈ asdict fields exclude slots, p ∈ slots ∧ exclude.contains p.1 = false := by
  intro p hp
  unfold asdict at hp
  split at hp
  next =>
    obtain ⟨k, _, hk⟩ := List.mem_filterMap.mp hp
    split at hk
    next v hv =>
      split at hk
      next => cases hk
      next hex =>
        cases hk
        exact ⟨lookup_mem hv, by simpa using hex⟩
    next => cases hk
  next => simpa using hp

theorem lookup_of_unique {l : List (Name × Cell)} {p : Name × Cell} (hp : p ∈ l)
    (huniq : ∀ q ∈ l, q.1 = p.1 → q = p) : lookup l p.1 = some p.2 := by
  cases hf : l.find? (fun q => q.1 == p.1) with
  | none => simpa using List.find?_eq_none.mp hf p hp
  | some q => simp [lookup, hf, huniq q (List.mem_of_find?_eq_some hf) (by simpa using List.find?_some hf)]

theorem eq_of_nodup_map {α β : Type} {f : α → β} {l : List α} (h : (l.map f).Nodup) :
    ∀ ⦃a⦄, a ∈ l → ∀ ⦃b⦄, b ∈ l → f a = f b → a = b :=
  List.Pairwise.forall_of_forall_of_flip (fun _ _ _ => rfl)
    ((List.pairwise_map.mp h).imp fun hne e => absurd e hne)
    ((List.pairwise_map.mp h).imp fun hne e => absurd e.symm hne)

theorem zip_lookup {hdr : List Name} {row : Row} (hn : hdr.Nodup) (hlen : row.length = hdr.length) :
    hdr.map (fun n => lookup (hdr.zip row).reverse n) = row.map some := by
  have hfst : (hdr.zip row).map (·.1) = hdr := List.map_fst_zip (by omega)
  have hsnd : (hdr.zip row).map (·.2) = row := List.map_snd_zip (by omega)
  have key : ∀ p ∈ hdr.zip row, lookup (hdr.zip row).reverse p.1 = some p.2 := fun p hp =>
    lookup_of_unique (List.mem_reverse.mpr hp) fun q hq e =>
      eq_of_nodup_map (hfst.symm ▸ hn) (List.mem_reverse.mp hq) hp e
  calc hdr.map (fun n => lookup (hdr.zip row).reverse n)
      = ((hdr.zip row).map (·.1)).map (fun n => lookup (hdr.zip row).reverse n) := by rw [hfst]
    _ = (hdr.zip row).map (fun p => lookup (hdr.zip row).reverse p.1) := by simp [List.map_map]
    _ = (hdr.zip row).map (fun p => some p.2) := List.map_congr_left key
    _ = ((hdr.zip row).map (·.2)).map some := by simp [List.map_map]
    _ = row.map some := by rw [hsnd]

end FlowRecord.Csv
