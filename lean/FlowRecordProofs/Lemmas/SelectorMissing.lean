import FlowRecordProofs.Lemmas.SelectorEval
import FlowRecordProofs.Lemmas.SelectorPyOps
/-! C08 through the interpreter: `interp` on a node whose children's outcomes are known, and a comparison link with the
    sentinel as an operand. -/
namespace FlowRecord.Selector

variable {P : Prim} {n : Nat} {st s1 s2 : St}

theorem interp_name_r (hr : st.ns.lookup "r" = none) : interp P (n + 1) (.name "r") st = (st, .ok st.record) := by
  simp [interp_succ, evalStep_name, inData, dataGet, hr, r_Type_bound.1, baseVal]

theorem interp_attr {v : Expr} {a : String} {obj : PVal} (hd : hasPrefix "__" a = false)
    (hv : interp P n v st = (s1, .ok obj)) :
    interp P (n + 1) (.attr v a) st =
      ({ s1 with trace := s1.trace ++ [.getattr obj a] }, .ok ((P.getattr obj a).getD .missing)) := by
  rw [interp_succ, evalStep_attr, if_neg (by simp [hd]), M.bind_of_eq_ok hv]
  rfl

theorem interp_r_missing {f : String} (hr : st.ns.lookup "r" = none) (hf : P.getattr st.record f = none)
    (hd : hasPrefix "__" f = false) :
    interp P (n + 2) (.attr (.name "r") f) st = ({ st with trace := st.trace ++ [.getattr st.record f] }, .ok .missing) := by
  rw [interp_attr hd (interp_name_r hr), hf]
  rfl

theorem interp_compare1 {l c : Expr} {op : String} {lv rv : PVal} (hl : interp P n l st = (s1, .ok lv))
    (hc : interp P n c s1 = (s2, .ok rv)) :
    interp P (n + 1) (.compare l [(op, c)]) st = linkCompare P op lv rv s2 := by
  rw [interp_succ, evalStep_compare, M.bind_of_eq_ok hl, evalChain, M.bind_of_eq_ok hc, M.bind_apply]
  -- the chain ends here with the link's result, truthy or not
  cases linkCompare P op lv rv s2 with
  | mk s r =>
    cases r with
    | error e => rfl
    | ok res => dsimp only; split <;> rfl

theorem interp_not {x : Expr} {v : PVal} (hx : interp P n x st = (s1, .ok v)) :
    interp P (n + 1) (.unary "Not" x) st = (s1, .ok (.bool (!P.truthy v))) := by
  rw [interp_succ, evalStep_not, M.bind_of_eq_ok hx]
  rfl

theorem interp_and_false {x : Expr} (y : Expr) {v : PVal} (hx : interp P n x st = (s1, .ok v)) (hv : P.truthy v = false) :
    interp P (n + 1) (.boolop "And" [x, y]) st = (s1, .ok v) := by
  rw [interp_succ, evalStep_boolop, evalBool_cons, hx]
  simp [hv]

theorem interp_or_false {x y : Expr} {v w : PVal} (hx : interp P n x st = (s1, .ok v)) (hv : P.truthy v = false)
    (hy : interp P n y s1 = (s2, .ok w)) : interp P (n + 1) (.boolop "Or" [x, y]) st = (s2, .ok w) := by
  rw [interp_succ, evalStep_boolop, evalBool_cons, hx]
  simp only [hv, beq_self_eq_true, show (false == true) = false from rfl, Bool.false_eq_true, if_false]
  rw [evalBool_cons, hy]
  dsimp only
  split <;> rfl

theorem interp_binop_missing {op : String} {l r : Expr} {rv : PVal} (hl : interp P n l st = (s1, .ok .missing))
    (hr : interp P n r s1 = (s2, .ok rv)) : interp P (n + 1) (.binop op l r) st = (s2, .ok (.bool false)) := by
  rw [interp_succ, evalStep_binop, M.bind_of_eq_ok hl, M.bind_of_eq_ok hr]
  rfl

theorem linkCompare_doc {op : SelOp} {l : PVal} (ht : l.isTmatch = false) (r : PVal) (s : St) :
    linkCompare P op.astName l r s = (s, (docImpl op).prim P l r) := by
  rw [linkCompare_of_impl (comparators_sel op), if_neg (by simp [ht])]

variable {T : ClassTable} {op : SelOp}

theorem link_missing_left (hP : ∀ o a b, P.rich o a b = richcmp T o a b) (r : PVal) (s : St) :
    linkCompare P op.astName .missing r s = (s, .ok (.bool false)) := by
  rw [linkCompare_doc rfl]
  cases op with
  | cmp o => rw [docImpl, CmpImpl.prim, hP, richcmp_missing_left]
  | isin | notin => rfl

theorem link_missing_right (hP : ∀ o a b, P.rich o a b = richcmp T o a b) {l : PVal} (ht : l.isTmatch = false)
    (hl : Foreign T l) (s : St) :
    linkCompare P op.astName l .missing s = (s, .ok (.bool false)) := by
  rw [linkCompare_doc ht]
  cases op with
  | cmp o => rw [docImpl, CmpImpl.prim, hP, richcmp_missing_right hl]
  | isin | notin => simp [docImpl, CmpImpl.prim, PVal.isMissing]

end FlowRecord.Selector
