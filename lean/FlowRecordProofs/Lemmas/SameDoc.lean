import FlowRecordProofs.Lemmas.MsgpackAny
import FlowRecordProofs.Lemmas.Envelope
/-! C02, envelope layer: a document whose extension payloads were written by ANOTHER conforming writer (any size
    class for every integer and length, at every nesting level inside the payloads) is unpacked to the same value. -/
open FlowRecord.Msgpack
namespace FlowRecord.Wire

mutual
  /-- `SameDoc v v'`: the value tree `v'` is `v` with every extension payload replaced by SOME conforming encoding of
      the (recursively re-encoded) document the original payload holds. -/
  inductive SameDoc : MVal → MVal → Prop
    | nil : SameDoc .nil .nil
    | bool (b : Bool) : SameDoc (.bool b) (.bool b)
    | int (i : Int) : SameDoc (.int i) (.int i)
    | f64 (x : Nat) : SameDoc (.f64 x) (.f64 x)
    | f32 (x : Nat) : SameDoc (.f32 x) (.f32 x)
    | str (p : Bytes) : SameDoc (.str p) (.str p)
    | bin (p : Bytes) : SameDoc (.bin p) (.bin p)
    | arr {xs ys : List MVal} : SameDocList xs ys → SameDoc (.arr xs) (.arr ys)
    | map {xs ys : List MVal} : SameDocList xs ys → SameDoc (.map xs) (.map ys)
    | ext (t : Nat) {p p' : Bytes} {d d' : MVal} : decode p = .ok d → SameDoc d d' → Encodes d' p' →
        SameDoc (.ext t p) (.ext t p')
  inductive SameDocList : List MVal → List MVal → Prop
    | nil : SameDocList [] []
    | cons {x y : MVal} {xs ys : List MVal} : SameDoc x y → SameDocList xs ys → SameDocList (x :: xs) (y :: ys)
end

/-- The document inside an envelope is a pair `[sub-type, value]` or is refused whatever the fuel; re-encoding keeps
    which. -/
theorem SameDoc.pair_or_not {d d' : MVal} (h : SameDoc d d') :
    (∃ s v s' v', d = .arr [s, v] ∧ d' = .arr [s', v'] ∧ SameDoc s s' ∧ SameDoc v v') ∨
    ∀ reg f, afterDecode reg f (.ok d) = .error .badShape ∧ afterDecode reg f (.ok d') = .error .badShape := by
  cases h with
  | arr hl =>
    cases hl with
    | nil => exact .inr fun _ _ => ⟨rfl, rfl⟩
    | cons h1 hl =>
      cases hl with
      | nil => exact .inr fun _ _ => ⟨rfl, rfl⟩
      | cons h2 hl =>
        cases hl with
        | nil => exact .inl ⟨_, _, _, _, rfl, rfl, h1, h2⟩
        | cons _ _ => exact .inr fun _ _ => ⟨rfl, rfl⟩
  | _ => exact .inr fun _ _ => ⟨rfl, rfl⟩

theorem fromMList_sameDoc_of (reg : Registry) (f : Nat) (ih : ∀ {a b : MVal}, SameDoc a b → fromM reg f b = fromM reg f a) :
    ∀ {xs ys : List MVal}, SameDocList xs ys → fromMList reg f ys = fromMList reg f xs
  | _, _, .nil => rfl
  | _, _, .cons h1 hl => by rw [fromMList_cons, fromMList_cons, ih h1, fromMList_sameDoc_of reg f ih hl]

theorem fromM_sameDoc (reg : Registry) {v v' : MVal} (h : SameDoc v v') (f : Nat) :
    fromM reg f v' = fromM reg f v := by
  induction f generalizing v v' with
  | zero => rw [fromM_zero, fromM_zero]
  | succ f ih =>
    cases h with
    | arr hl => rw [fromM_arr, fromM_arr, fromMList_sameDoc_of reg f ih hl]
    | map hl => rw [fromM_map, fromM_map, fromMList_sameDoc_of reg f ih hl]
    | ext t hd hsd he =>
      rw [fromM_ext, fromM_ext, hd, decode_encodes he]
      split
      · rfl
      · obtain ⟨s, v, s', v', rfl, rfl, h1, h2⟩ | hn := hsd.pair_or_not
        · rw [afterDecode_pair, afterDecode_pair, ih h1, ih h2]
        · rw [(hn reg f).1, (hn reg f).2]
    | _ => rfl

theorem fromMList_sameDoc (reg : Registry) {xs ys : List MVal} (h : SameDocList xs ys) (f : Nat) :
    fromMList reg f ys = fromMList reg f xs :=
  fromMList_sameDoc_of reg f (fromM_sameDoc reg · f) h

theorem fromMList_fuel_of (reg : Registry) (f g : Nat)
    (ih : ∀ {a b : MVal}, SameDoc a b → ∀ bs : Bytes, Encodes b bs → bs.length + 1 ≤ f → bs.length + 1 ≤ g →
      fromM reg f b = fromM reg g b) :
    ∀ {xs ys : List MVal}, SameDocList xs ys → ∀ body : Bytes, EncodesList ys body → body.length + 1 ≤ f →
      body.length + 1 ≤ g → fromMList reg f ys = fromMList reg g ys
  | _, _, .nil, _, _, _, _ => by rw [fromMList_nil, fromMList_nil]
  | _, _, .cons h1 hl, _, he, hf, hg => by
    obtain ⟨b1, r1, e1, hr1, rfl⟩ := he
    simp only [List.length_append] at hf hg
    rw [fromMList_cons, fromMList_cons, ih h1 b1 e1 (by omega) (by omega),
      fromMList_fuel_of reg f g ih hl r1 hr1 (by omega) (by omega)]

/-- The statement speaks of `v'` alone; `SameDoc v v'` is there as the certificate that every extension payload inside
    `v'`, at every depth, is itself a conforming encoding, which is what bounds the nesting below the envelopes. -/
theorem fromM_fuel_irrelevant (reg : Registry) {v v' : MVal} (h : SameDoc v v') (bs : Bytes) (he : Encodes v' bs)
    (f g : Nat) (hf : bs.length + 1 ≤ f) (hg : bs.length + 1 ≤ g) : fromM reg f v' = fromM reg g v' := by
  induction f generalizing g v v' bs with
  | zero => omega
  | succ f ih =>
    obtain ⟨g, rfl⟩ : ∃ k, g = k + 1 := ⟨g - 1, by omega⟩
    have ih' {a b : MVal} (hab : SameDoc a b) (bs' : Bytes) (he' : Encodes b bs') := ih hab bs' he' g
    cases h with
    | arr hl =>
      obtain ⟨hd, body, hhd, hbody, rfl⟩ := he
      have hpos := hhd.length_pos
      simp only [List.length_append] at hf hg
      rw [fromM_arr, fromM_arr, fromMList_fuel_of reg f g ih' hl body hbody (by omega) (by omega)]
    | map hl =>
      obtain ⟨_, hd, body, hhd, hbody, rfl⟩ := he
      have hpos := hhd.length_pos
      simp only [List.length_append] at hf hg
      rw [fromM_map, fromM_map, fromMList_fuel_of reg f g ih' hl body hbody (by omega) (by omega)]
    | ext t hd hsd hep =>
      obtain ⟨_, hdr, hhd, rfl⟩ := he
      have h2 := hhd.length_ge
      rw [fromM_ext, fromM_ext, decode_encodes hep]
      split
      · rfl
      · obtain ⟨s, v, s', v', rfl, rfl, hs, hv⟩ | hn := hsd.pair_or_not
        · obtain ⟨ha, bs, bv, -, es, ev, rfl⟩ := encodes_pair hep
          simp only [List.length_append] at hf hg
          rw [afterDecode_pair, afterDecode_pair, ih' hs bs es (by omega) (by omega), ih' hv bv ev (by omega) (by omega)]
        · rw [(hn reg f).2, (hn reg g).2]
    | _ => simp

theorem fromMList_fuel_irrelevant (reg : Registry) {xs ys : List MVal} (h : SameDocList xs ys) (body : Bytes)
    (he : EncodesList ys body) (f g : Nat) (hf : body.length + 1 ≤ f) (hg : body.length + 1 ≤ g) :
    fromMList reg f ys = fromMList reg g ys :=
  fromMList_fuel_of reg f g (fun hab bs' he' h1 h2 => fromM_fuel_irrelevant reg hab bs' he' f g h1 h2) h body he hf hg

end FlowRecord.Wire
