import FlowRecord.Model.TextOut
/-!
For C20 (line / text writers): the format-string machine consumes a canonical template piece by
piece; the line writer's counter fold has a closed form; padding reaches the block width.
-/
namespace FlowRecord.TextOut
open FlowRecord.Csv (Ch Name Cell Rec Sel ofString)

theorem frun_append (lk : Name → Option Cell) (s : FSt) (a b : List Ch) :
    frun lk s (a ++ b) = frun lk (frun lk s a) b := by simp [frun, List.foldl_append]
theorem frun_cons (lk : Name → Option Cell) (s : FSt) (c : Ch) (cs : List Ch) :
    frun lk s (c :: cs) = frun lk (fstep lk s c) cs := rfl
theorem frun_nil (lk : Name → Option Cell) (s : FSt) : frun lk s [] = s := rfl

theorem frun_escapeLit (lk : Name → Option Cell) (l out : List Ch) :
    frun lk ⟨.text, [], out, none⟩ (escapeLit l) = ⟨.text, [], l.reverse ++ out, none⟩ := by
  induction l generalizing out with
  | nil => rfl
  | cons c cs ih =>
    have hne : RBRACE ≠ LBRACE := by decide
    by_cases h1 : c = LBRACE
    · simp [escapeLit, frun_cons, fstep, h1, ih]
    · by_cases h2 : c = RBRACE
      · simp [escapeLit, frun_cons, fstep, h2, hne, ih]
      · simp [escapeLit, frun_cons, fstep, h1, h2, ih]

def NameCh (c : Ch) : Prop := c ≠ RBRACE ∧ c ≠ LBRACE ∧ isSpecial c = false
instance (c : Ch) : Decidable (NameCh c) := by unfold NameCh; infer_instance

/-- a field name `format_map` looks up as a key: non-empty, not a number, no brace / conversion / spec / attribute /
    index character -/
structure ValidName (n : Name) : Prop where
  nonempty : n ≠ []
  notIndex : n.all isDigit = false
  chars : ∀ c ∈ n, NameCh c

theorem frun_nameChars (lk : Name → Option Cell) {cs : List Ch} (nm out : List Ch) (h : ∀ c ∈ cs, NameCh c) :
    frun lk ⟨.name, nm, out, none⟩ cs = ⟨.name, cs.reverse ++ nm, out, none⟩ := by
  induction cs generalizing nm with
  | nil => simp [frun_nil]
  | cons c rest ih =>
    obtain ⟨h1, h2, h3⟩ := h c List.mem_cons_self
    have : fstep lk ⟨.name, nm, out, none⟩ c = ⟨.name, c :: nm, out, none⟩ := by simp [fstep, inName, h1, h2, h3]
    rw [frun_cons, this, ih _ (fun x hx => h x (List.mem_cons_of_mem _ hx))]; simp

theorem frun_field (lk : Name → Option Cell) {n : Name} (hn : ValidName n) (out : List Ch) :
    frun lk ⟨.text, [], out, none⟩ (LBRACE :: (n ++ [RBRACE])) = ⟨.text, [], (expandName lk n).reverse ++ out, none⟩ := by
  cases n with
  | nil => exact absurd rfl hn.nonempty
  | cons c rest =>
    obtain ⟨h1, h2, h3⟩ := hn.chars c List.mem_cons_self
    have s1 : fstep lk ⟨.text, [], out, none⟩ LBRACE = ⟨.afterOpen, [], out, none⟩ := by simp [fstep]
    have s2 : fstep lk ⟨.afterOpen, [], out, none⟩ c = ⟨.name, [c], out, none⟩ := by simp [fstep, inName, h1, h2, h3]
    have s3 := frun_nameChars lk [c] out (fun x hx => hn.chars x (List.mem_cons_of_mem _ hx))
    have s4 : fstep lk ⟨.name, rest.reverse ++ [c], out, none⟩ RBRACE
        = ⟨.text, [], (expandName lk (c :: rest)).reverse ++ out, none⟩ := by
      have hrev : (rest.reverse ++ [c]).reverse = c :: rest := by simp
      simp only [fstep, inName, closeName, hrev]
      simp [hn.notIndex]
    rw [frun_cons, s1, List.cons_append, frun_cons, s2, frun_append, s3, frun_cons, s4, frun_nil]

def PiecesOk : List Piece → Prop
  | [] => True
  | .lit _ :: ps => PiecesOk ps
  | .field n :: ps => ValidName n ∧ PiecesOk ps

theorem frun_unparse (lk : Name → Option Cell) (ps : List Piece) (out : List Ch) (h : PiecesOk ps) :
    frun lk ⟨.text, [], out, none⟩ (unparse ps) = ⟨.text, [], (ps.flatMap (expand lk)).reverse ++ out, none⟩ := by
  induction ps generalizing out with
  | nil => simp [unparse, frun_nil]
  | cons p rest ih =>
    cases p with
    | lit s =>
      simp only [unparse, frun_append, frun_escapeLit, List.flatMap_cons, expand]
      rw [ih _ h]; simp
    | field n =>
      obtain ⟨hn, hrest⟩ := h
      have : unparse (.field n :: rest) = (LBRACE :: (n ++ [RBRACE])) ++ unparse rest := by simp [unparse]
      rw [this, frun_append, frun_field lk hn, ih _ hrest]
      simp [List.flatMap_cons, expand]

theorem le_maxList {l : List Nat} {x : Nat} (h : x ∈ l) : x ≤ maxList l := by
  induction l with
  | nil => cases h
  | cons y ys ih =>
    rcases List.mem_cons.mp h with rfl | h
    · exact Nat.le_max_left ..
    · exact Nat.le_trans (ih h) (Nat.le_max_right ..)

theorem padLeft_length {w : Nat} {s : List Ch} (h : s.length ≤ w) : (padLeft w s).length = w := by
  rw [padLeft, List.length_append, List.length_replicate, Nat.sub_add_cancel h]

theorem lineOut_closed (sel : Sel) (verbose : Bool) (recs : List Rec) (n : Nat) :
    lineOut sel verbose n recs = (recs.zipIdx n).flatMap (fun p => lineBlock sel verbose (p.2 + 1) p.1) := by
  induction recs generalizing n with
  | nil => simp [lineOut]
  | cons r rs ih => simp [lineOut, List.zipIdx_cons, ih]

theorem reprRecord_eq (name : Name) (items : List (Name × Cell)) :
    reprRecord name items = ofString "<" ++ name ++ ofString " " ++
      joinWith (ofString " ") (items.map fun p => p.1 ++ ofString "=" ++ p.2) ++ ofString ">" := by
  unfold reprRecord ofString Gen.reprOuterFormat Gen.reprSeparator Gen.reprItemFormat
  repeat rw [String.toList_ofList]
  simp [fillPositional, LBRACE, RBRACE]

end FlowRecord.TextOut
