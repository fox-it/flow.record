import FlowRecord.Model.Msgpack
/-! The msgpack model at byte level. Everything rests on `Reads`: the decoder on a piece of the format, whole or cut
    short. -/
namespace FlowRecord.Msgpack

-- `UInt8.toNat_ofNat_of_lt'` with the bound written out: `omega` does not unfold `UInt8.size`
theorem toNat_ofNat_lt (n : Nat) (h : n < 256) : (UInt8.ofNat n).toNat = n :=
  UInt8.toNat_ofNat_of_lt' h

@[simp] theorem beEnc_length (k n : Nat) : (beEnc k n).length = k := by
  induction k with
  | zero => rfl
  | succ k ih => simp [beEnc, ih]

theorem foldl_beEnc (k n acc : Nat) :
    (beEnc k n).foldl (fun a (b : UInt8) => a * 256 + b.toNat) acc = acc * 256 ^ k + n % 256 ^ k := by
  induction k generalizing acc with
  | zero => simp [beEnc, Nat.mod_one]
  | succ k ih =>
    simp only [beEnc, List.foldl_cons]
    rw [ih, toNat_ofNat_lt _ (Nat.mod_lt _ (by omega)), Nat.pow_succ, Nat.mod_mul, Nat.add_mul, Nat.mul_assoc,
      Nat.mul_comm 256, Nat.mul_comm (_ % 256)]
    omega

theorem beDec_beEnc (k n : Nat) (h : n < 256 ^ k) : beDec (beEnc k n) = n := by
  unfold beDec
  rw [foldl_beEnc, Nat.mod_eq_of_lt h]; simp

theorem takeN_append (a r : Bytes) : takeN a.length (a ++ r) = some (a, r) := by
  unfold takeN
  rw [if_pos (by simp), List.take_left' rfl, List.drop_left' rfl]

theorem takeN_short (k : Nat) (bs : Bytes) (h : bs.length < k) : takeN k bs = none := by
  unfold takeN; rw [if_neg (by omega)]

/-- The decoder `d`, run on the first `k` bytes of a stream that begins with `hd`: a cut inside `hd` is reported as
    `incomplete`, otherwise `d` goes on as `c` does on what the cut leaves after `hd`. Stated with the cut `k` so that
    pieces compose (`Reads.trans`). -/
structure Reads {β : Type} (k : Nat) (d : Bytes → Res β) (hd : Bytes) (c : Bytes → Res β) : Prop where
  cut : k < hd.length → ∀ rest, d ((hd ++ rest).take k) = .incomplete
  full : hd.length ≤ k → ∀ rest, d ((hd ++ rest).take k) = c (rest.take (k - hd.length))

section
variable {β : Type} {d c c' : Bytes → Res β} {hd body : Bytes} {k : Nat}

theorem reads_of (full : ∀ rest, d (hd ++ rest) = c rest) (cut : ∀ m, m < hd.length → d (hd.take m) = .incomplete) :
    Reads k d hd c where
  cut h rest := by rw [List.take_append_of_le_length (by omega), cut k h]
  full h rest := by rw [List.take_append, List.take_of_length_le h, full]

theorem Reads.whole (h : ∀ k, Reads k d hd c) (rest : Bytes) : d (hd ++ rest) = c rest := by
  have := (h (hd ++ rest).length).full (by simp) rest
  rwa [List.take_length, List.length_append, Nat.add_sub_cancel_left, List.take_length] at this

theorem Reads.trans (h1 : Reads k d hd c) (h2 : hd.length ≤ k → Reads (k - hd.length) c body c') :
    Reads k d (hd ++ body) c' where
  cut hk rest := by
    rw [List.append_assoc]
    by_cases h : k < hd.length
    · exact h1.cut h _
    · rw [h1.full (by omega)]
      exact (h2 (by omega)).cut (by rw [List.length_append] at hk; omega) rest
  full hk rest := by
    rw [List.length_append] at hk ⊢
    rw [List.append_assoc, h1.full (by omega), (h2 (by omega)).full (by omega), Nat.sub_sub]

theorem reads_byte {b : UInt8} (h0 : d [] = .incomplete) (h : ∀ rest, d (b :: rest) = c rest) : Reads k d [b] c :=
  reads_of h fun m hm => by cases m with | zero => exact h0 | succ m => simp at hm
end

section
variable {self : Bytes → Res (MVal × Bytes)} {k j n : Nat} {g : Nat → Bytes → Res (MVal × Bytes)}
  {x : MVal} {xs : List MVal} {bx bxs body : Bytes}

theorem reads_withNum (hn : n < 256 ^ j) : Reads k (fun bs => withNum j bs g) (beEnc j n) (g n) :=
  reads_of (fun rest => by
      have := takeN_append (beEnc j n) rest
      rw [beEnc_length] at this
      simp only [withNum, this, beDec_beEnc j n hn])
    (fun m hm => by simp only [withNum]; rw [takeN_short]; simp at hm ⊢; omega)

theorem reads_payload (p : Bytes) {mk : Bytes → MVal} :
    Reads k (fun bs => payload p.length bs mk) p (fun r => .ok (mk p, r)) :=
  reads_of (fun rest => by simp only [payload, takeN_append])
    (fun m hm => by simp only [payload]; rw [takeN_short]; simp; omega)

theorem reads_num {b : UInt8} (g : Nat → Bytes → Res (MVal × Bytes))
    (hb : ∀ rest, decStep self (b :: rest) = withNum j rest g) (hn : n < 256 ^ j) :
    Reads k (decStep self) (b :: beEnc j n) (g n) :=
  (reads_byte rfl hb).trans fun _ => reads_withNum hn

theorem reads_decExt {t : UInt8} : Reads k (decExt n) [t] (fun r => payload n r (.ext t.toNat)) :=
  reads_byte rfl fun _ => rfl

theorem reads_decN_nil : Reads k (decN self 0) [] (fun r => .ok ([], r)) :=
  reads_of (fun _ => rfl) fun m hm => by simp at hm

theorem reads_decN_cons (h1 : Reads k self bx (fun r => .ok (x, r)))
    (h2 : bx.length ≤ k → Reads (k - bx.length) (decN self n) bxs (fun r => .ok (xs, r))) :
    Reads k (decN self (n + 1)) (bx ++ bxs) (fun r => .ok (x :: xs, r)) := by
  have h1' : Reads k (decN self (n + 1)) bx (fun r => match decN self n r with
      | .ok (xs, r') => .ok (x :: xs, r') | .incomplete => .incomplete | .invalid => .invalid) :=
    ⟨fun hk rest => by simp only [decN, h1.cut hk rest], fun hk rest => by simp only [decN, h1.full hk rest]; rfl⟩
  exact h1'.trans fun hk =>
    ⟨fun hk' rest => by simp only [(h2 hk).cut hk' rest], fun hk' rest => by simp only [(h2 hk).full hk' rest]⟩

theorem reads_decArr (h : Reads k (decN self n) body (fun r => .ok (xs, r))) :
    Reads k (decArr self n) body (fun r => .ok (.arr xs, r)) :=
  ⟨fun hk rest => by simp only [decArr, h.cut hk rest], fun hk rest => by simp only [decArr, h.full hk rest]⟩

theorem reads_decMap (h : Reads k (decN self (2 * n)) body (fun r => .ok (xs, r))) :
    Reads k (decMap self n) body (fun r => .ok (.map xs, r)) :=
  ⟨fun hk rest => by simp only [decMap, h.cut hk rest], fun hk rest => by simp only [decMap, h.full hk rest]⟩
end

theorem decStep_nil (self : Bytes → Res (MVal × Bytes)) : decStep self [] = .incomplete := rfl

-- Where the head byte carries a number it is computed (`UInt8.ofNat (c + n)`): its value is read back and the `if`
-- ladder walked. On a literal head byte the ladder evaluates, by `simp [decStep]` where one is met (`rfl` is several
-- times dearer).
section
variable {self : Bytes → Res (MVal × Bytes)} {rest : Bytes} {n : Nat}

theorem decStep_posfix (h : n < 128) : decStep self (UInt8.ofNat n :: rest) = .ok (.int n, rest) := by
  simp only [decStep, toNat_ofNat_lt n (by omega), if_pos h]

theorem decStep_negfix {i : Int} (h1 : -32 ≤ i) (h2 : i < 0) :
    decStep self (UInt8.ofNat (256 + i).toNat :: rest) = .ok (.int i, rest) := by
  obtain ⟨m, rfl⟩ : ∃ m : Nat, i = m - 256 := ⟨(256 + i).toNat, by omega⟩
  -- the head is `m` with `224 ≤ m`: no rung of the ladder takes it
  have hlt : ∀ c, c ≤ 224 → ¬ m < c := fun c hc => by omega
  have hne : ∀ c, c < 224 → ¬ m = c := fun c hc => by omega
  rw [show (256 + ((m : Int) - 256)).toNat = m by omega]
  simp (disch := decide) only [decStep, toNat_ofNat_lt m (by omega), hlt, hne, if_false]

theorem decStep_fixstr (h : n < 32) : decStep self (UInt8.ofNat (0xa0 + n) :: rest) = payload n rest .str := by
  simp only [decStep, toNat_ofNat_lt (0xa0 + n) (by omega)]
  repeat rw [if_neg (by omega)]
  rw [if_pos (by omega), Nat.add_sub_cancel_left]

theorem decStep_fixarr (h : n < 16) : decStep self (UInt8.ofNat (0x90 + n) :: rest) = decArr self n rest := by
  simp only [decStep, toNat_ofNat_lt (0x90 + n) (by omega)]
  repeat rw [if_neg (by omega)]
  rw [if_pos (by omega), Nat.add_sub_cancel_left]

theorem decStep_fixmap (h : n < 16) : decStep self (UInt8.ofNat (0x80 + n) :: rest) = decMap self n rest := by
  simp only [decStep, toNat_ofNat_lt (0x80 + n) (by omega)]
  repeat rw [if_neg (by omega)]
  rw [if_pos (by omega), Nat.add_sub_cancel_left]
end

theorem decArr_ok (self : Bytes → Res (MVal × Bytes)) (xs : List MVal) (bs r : Bytes)
    (h : decN self xs.length bs = .ok (xs, r)) : decArr self xs.length bs = .ok (.arr xs, r) := by
  simp [decArr, h]

theorem depth_pos (v : MVal) : 1 ≤ depth v := by
  cases v <;> simp [depth]

-- Lower bounds on `(enc v).length`, for `need_le` in Envelope; the fuel of `decode` rests on `encodes_depth_le`.
theorem encInt_length_pos (i : Int) : 1 ≤ (encInt i).length := by
  simp [encInt, apply_ite List.length, apply_ite (1 ≤ ·)]
theorem strHead_length_pos (n : Nat) : 1 ≤ (strHead n).length := by
  simp [strHead, apply_ite List.length, apply_ite (1 ≤ ·)]
theorem binHead_length_pos (n : Nat) : 1 ≤ (binHead n).length := by
  simp [binHead, apply_ite List.length, apply_ite (1 ≤ ·)]
theorem arrHead_length_pos (n : Nat) : 1 ≤ (arrHead n).length := by
  simp [arrHead, apply_ite List.length, apply_ite (1 ≤ ·)]
theorem mapHead_length_pos (n : Nat) : 1 ≤ (mapHead n).length := by
  simp [mapHead, apply_ite List.length, apply_ite (1 ≤ ·)]
theorem extHead_length_ge (t n : Nat) : 2 ≤ (extHead t n).length := by
  simp [extHead, apply_ite List.length, apply_ite (2 ≤ ·)]

mutual
theorem depth_le_length (v : MVal) : depth v ≤ (enc v).length := by
  match v with
  | .nil | .bool false | .bool true | .f64 _ | .f32 _ => simp [depth, enc]
  | .int i => exact encInt_length_pos i
  | .str p => simp only [depth, enc, List.length_append]; have := strHead_length_pos p.length; omega
  | .bin p => simp only [depth, enc, List.length_append]; have := binHead_length_pos p.length; omega
  | .ext t p => simp only [depth, enc, List.length_append]; have := extHead_length_ge t p.length; omega
  | .arr xs =>
    simp only [depth, enc, List.length_append]
    have := arrHead_length_pos xs.length; have := depthList_le_length xs; omega
  | .map xs =>
    simp only [depth, enc, List.length_append]
    have := mapHead_length_pos (xs.length / 2); have := depthList_le_length xs; omega
theorem depthList_le_length (xs : List MVal) : depthList xs ≤ (encList xs).length := by
  match xs with
  | [] => simp [depthList]
  | x :: xs =>
    simp only [depthList, encList, List.length_append]
    have := depth_le_length x; have := depthList_le_length xs; omega
end

theorem enc_pos (m : MVal) : 1 ≤ (enc m).length := Nat.le_trans (depth_pos m) (depth_le_length m)

theorem enc_arr_ge (xs : List MVal) : 1 + (encList xs).length ≤ (enc (.arr xs)).length := by
  simp only [enc, List.length_append]; have := arrHead_length_pos xs.length; omega

theorem enc_map_ge (xs : List MVal) : 1 + (encList xs).length ≤ (enc (.map xs)).length := by
  simp only [enc, List.length_append]; have := mapHead_length_pos (xs.length / 2); omega

theorem enc_pair_ge (a b : MVal) : 1 + (enc a).length + (enc b).length ≤ (enc (.arr [a, b])).length := by
  have := enc_arr_ge [a, b]
  simp only [encList, List.length_append, List.length_nil] at this
  omega

end FlowRecord.Msgpack
