import FlowRecord.Model.Equality
/-!
C12: `veq` / `vhash` over packed-value trees, for every primitive equality and hash that satisfy CPython's contract
(`HashLaws`, a hypothesis; each lemma takes only the field of it that it needs, as `hE` or `hH`). At the end the
ignored-fields machine: observations are only ever appended to the trace.
-/
namespace FlowRecord.Equality

/-- CPython's contract for the primitive leaves (str, int, float, bytes, bool, None, datetime, …):
    `==` is reflexive on identical objects, symmetric, and equal objects have equal hashes. -/
structure HashLaws {P : Type} (E : P → P → Bool) (H : P → Option Nat) : Prop where
  refl : ∀ p, E p p = true
  symm : ∀ a b, E a b = E b a
  hash_eq : ∀ a b, E a b = true → H a = H b

variable {P : Type}

theorem primsEq_refl (E : P → P → Bool) (hE : ∀ p, E p p = true) : ∀ ks : List P, primsEq E ks ks = true
  | [] => rfl
  | k :: ks => by simp [primsEq, hE k, primsEq_refl E hE ks]

theorem primsEq_symm (E : P → P → Bool) (hE : ∀ a b, E a b = E b a) : ∀ as bs : List P, primsEq E as bs = primsEq E bs as
  | [], [] | [], _ :: _ | _ :: _, [] => rfl
  | a :: as, b :: bs => by simp [primsEq, hE a b, primsEq_symm E hE as bs]

theorem primsEq_hash (E : P → P → Bool) (H : P → Option Nat) (hH : ∀ a b, E a b = true → H a = H b) :
    ∀ as bs : List P, primsEq E as bs = true → mapM' H as = mapM' H bs
  | [], [], _ => rfl
  | [], _ :: _, h | _ :: _, [], h => by simp [primsEq] at h
  | a :: as, b :: bs, h => by
    simp only [primsEq, Bool.and_eq_true] at h
    simp only [mapM', hH a b h.1, primsEq_hash E H hH as bs h.2]

mutual
theorem veq_refl (E : P → P → Bool) (h : Str → Nat) (hE : ∀ p, E p p = true) : ∀ v : Val P, veq E h v v = true
  | .prim p => by simp [veq, hE p]
  | .seq _ vs | .record _ vs | .grouped _ vs => by simp [veq, veqs_refl E h hE vs]
  | .dict ks vs => by simp [veq, primsEq_refl E hE ks, veqs_refl E h hE vs]
theorem veqs_refl (E : P → P → Bool) (h : Str → Nat) (hE : ∀ p, E p p = true) : ∀ vs : List (Val P), veqs E h vs vs = true
  | [] => rfl
  | v :: vs => by simp [veqs, veq_refl E h hE v, veqs_refl E h hE vs]
end

/-- symmetry as an implication, along the clauses of `veq` / `veqs` themselves (`veq.mutual_induct`, the goals named in
    source order): every pair of unlike constructors is ONE clause, it compares `false`, so there the hypothesis is
    absurd and no such pair has to be named -/
theorem veq_symm_both (E : P → P → Bool) (h : Str → Nat) (hE : ∀ a b, E a b = E b a) :
    (∀ a b : Val P, veq E h a b = true → veq E h b a = true) ∧
    (∀ as bs : List (Val P), veqs E h as bs = true → veqs E h bs as = true) := by
  refine veq.mutual_induct _ _ ?prim ?seq ?dict ?record ?grouped ?unlike ?nil ?cons ?unlikeLists
  case prim => exact fun a b he => (hE b a).trans he
  case seq | record | grouped =>                   -- the head test is an equality
    intro _ _ _ _ ih he
    simp only [veq, Bool.and_eq_true, beq_iff_eq] at he ⊢
    exact ⟨he.1.symm, ih he.2⟩
  case dict =>
    intro ka va kb vb ih he
    simp only [veq, Bool.and_eq_true] at he ⊢
    exact ⟨primsEq_symm E hE ka kb ▸ he.1, ih he.2⟩
  case unlike => intros; rename_i he; simp only [veq] at he; cases he
  case nil => exact id
  case cons =>
    intro a as b bs ih1 ih2 he
    simp only [veqs, Bool.and_eq_true] at he ⊢
    exact ⟨ih1 he.1, ih2 he.2⟩
  case unlikeLists => intros; rename_i he; simp only [veqs] at he; cases he

theorem veq_symm (E : P → P → Bool) (h : Str → Nat) (hE : ∀ a b, E a b = E b a) :
    ∀ a b : Val P, veq E h a b = veq E h b a :=
  fun a b => Bool.eq_iff_iff.mpr ⟨(veq_symm_both E h hE).1 a b, (veq_symm_both E h hE).1 b a⟩

theorem veqs_symm (E : P → P → Bool) (h : Str → Nat) (hE : ∀ a b, E a b = E b a) :
    ∀ as bs : List (Val P), veqs E h as bs = veqs E h bs as :=
  fun as bs => Bool.eq_iff_iff.mpr ⟨(veq_symm_both E h hE).2 as bs, (veq_symm_both E h hE).2 bs as⟩

theorem veq_hash_both (E : P → P → Bool) (H : P → Option Nat) (C : Combine) (h : Str → Nat)
    (hH : ∀ a b, E a b = true → H a = H b) :
    (∀ a b : Val P, veq E h a b = true → vhash H C h a = vhash H C h b) ∧
    (∀ as bs : List (Val P), veqs E h as bs = true → vhashes H C h as = vhashes H C h bs) := by
  refine veq.mutual_induct _ _ ?prim ?seq ?dict ?record ?grouped ?unlike ?nil ?cons ?unlikeLists
  case prim => exact fun a b he => hH a b he
  case seq =>
    intro ta xs tb ys ih he
    simp only [veq, Bool.and_eq_true] at he
    simp only [vhash, ih he.2]
  case dict =>
    intro ka va kb vb ih he
    simp only [veq, Bool.and_eq_true] at he
    simp only [vhash, ih he.2, primsEq_hash E H hH ka kb he.1]
  case record =>
    intro da va db vb ih he
    simp only [veq, Bool.and_eq_true, beq_iff_eq, identifier, Prod.mk.injEq] at he
    simp only [vhash, ih he.2, he.1.1, he.1.2]
  case grouped =>
    intro na ma nb mb ih he
    simp only [veq, Bool.and_eq_true, beq_iff_eq] at he
    simp only [vhash, ih he.2, he.1]
  case unlike => intros; rename_i he; simp only [veq] at he; cases he
  case nil => exact fun _ => rfl
  case cons =>
    intro a as b bs ih1 ih2 he
    simp only [veqs, Bool.and_eq_true] at he
    simp only [vhashes, ih1 he.1, ih2 he.2]
  case unlikeLists => intros; rename_i he; simp only [veqs] at he; cases he

theorem veq_hash (E : P → P → Bool) (H : P → Option Nat) (C : Combine) (h : Str → Nat)
    (hH : ∀ a b, E a b = true → H a = H b) : ∀ a b : Val P, veq E h a b = true → vhash H C h a = vhash H C h b :=
  (veq_hash_both E H C h hH).1

theorem veqs_hash (E : P → P → Bool) (H : P → Option Nat) (C : Combine) (h : Str → Nat)
    (hH : ∀ a b, E a b = true → H a = H b) :
    ∀ as bs : List (Val P), veqs E h as bs = true → vhashes H C h as = vhashes H C h bs :=
  (veq_hash_both E H C h hH).2

/-- two lists have the same length and are related elementwise -/
def Pairwise2 {α β : Type} (R : α → β → Prop) : List α → List β → Prop
  | [], [] => True
  | a :: as, b :: bs => R a b ∧ Pairwise2 R as bs
  | _, _ => False

theorem veqs_iff (E : P → P → Bool) (h : Str → Nat) : ∀ as bs : List (Val P),
    veqs E h as bs = true ↔ Pairwise2 (fun a b => veq E h a b = true) as bs
  | [], [] | [], _ :: _ | _ :: _, [] => by simp [veqs, Pairwise2]
  | a :: as, b :: bs => by simp [veqs, Pairwise2, veqs_iff E h as bs]

mutual
/-- every primitive leaf and every dict key of the tree is hashable -/
def hashable (H : P → Option Nat) : Val P → Bool
  | .prim p => (H p).isSome
  | .seq _ xs => hashables H xs
  | .dict ks vs => ks.all (fun k => (H k).isSome) && hashables H vs
  | .record _ vs => hashables H vs
  | .grouped _ ms => hashables H ms
def hashables (H : P → Option Nat) : List (Val P) → Bool
  | [] => true
  | v :: vs => hashable H v && hashables H vs
end

theorem mapM'_isSome (H : P → Option Nat) : ∀ ks : List P, (mapM' H ks).isSome = ks.all (fun k => (H k).isSome)
  | [] => rfl
  | k :: ks => by
    rw [mapM', List.all_cons, ← mapM'_isSome H ks]
    cases H k <;> cases mapM' H ks <;> rfl

mutual
theorem vhash_isSome_eq (H : P → Option Nat) (C : Combine) (h : Str → Nat) :
    ∀ v : Val P, (vhash H C h v).isSome = hashable H v
  | .prim p => rfl
  | .seq _ vs | .record _ vs | .grouped _ vs => by
    rw [vhash, hashable, Option.isSome_map, vhashes_isSome_eq H C h vs]
  | .dict ks vs => by
    rw [vhash, hashable, ← mapM'_isSome, ← vhashes_isSome_eq H C h vs]
    cases mapM' H ks <;> cases vhashes H C h vs <;> rfl
theorem vhashes_isSome_eq (H : P → Option Nat) (C : Combine) (h : Str → Nat) :
    ∀ vs : List (Val P), (vhashes H C h vs).isSome = hashables H vs
  | [] => rfl
  | v :: vs => by
    rw [vhashes, hashables, ← vhash_isSome_eq H C h v, ← vhashes_isSome_eq H C h vs]
    cases vhash H C h v <;> cases vhashes H C h vs <;> rfl
end

theorem vhashes_isSome (H : P → Option Nat) (C : Combine) (h : Str → Nat) :
    ∀ vs : List (Val P), hashables H vs = true → (vhashes H C h vs).isSome = true :=
  fun vs hv => (vhashes_isSome_eq H C h vs).trans hv

theorem hashables_keep (H : P → Option Nat) (ig : List Str) : ∀ (ns : List Str) (vs : List (Val P)),
    hashables H vs = true → hashables H (keep ig ns vs) = true
  | [], _, _ | _ :: _, [], _ => by simp [keep, hashables]
  | n :: ns, v :: vs, hv => by
    simp only [hashables, Bool.and_eq_true] at hv
    simp only [keep]
    split
    · exact hashables_keep H ig ns vs hv.2
    · simp [hashables, hv.1, hashables_keep H ig ns vs hv.2]

mutual
theorem hashable_norm (H : P → Option Nat) (ig : List Str) : ∀ v : Val P, hashable H v = true → hashable H (norm ig v) = true
  | .prim p, hv => by simpa [norm] using hv
  | .seq _ vs, hv | .grouped _ vs, hv => by simp only [norm, hashable] at hv ⊢; exact hashables_norms H ig vs hv
  | .dict ks vs, hv => by
    simp only [norm, hashable, Bool.and_eq_true] at hv ⊢
    exact ⟨hv.1, hashables_norms H ig vs hv.2⟩
  | .record d vs, hv => by
    simp only [norm, hashable] at hv ⊢
    exact hashables_keep H ig _ _ (hashables_norms H ig vs hv)
theorem hashables_norms (H : P → Option Nat) (ig : List Str) :
    ∀ vs : List (Val P), hashables H vs = true → hashables H (norms ig vs) = true
  | [], _ => rfl
  | v :: vs, hv => by
    simp only [hashables, Bool.and_eq_true] at hv
    simp [norms, hashables, hashable_norm H ig v hv.1, hashables_norms H ig vs hv.2]
end

theorem execs_cons (st : St) (c : Cmd) (cs : List Cmd) :
    execs st (c :: cs) = if (exec1 st c).2 = .raised then exec1 st c else execs (exec1 st c).1 cs := by
  rw [execs]; rcases exec1 st c with ⟨st', _ | _⟩ <;> rfl

mutual
theorem exec1_trace : ∀ (c : Cmd) (st : St), st.trace <+: (exec1 st c).1.trace
  | .set _, _ | .raise, _ => List.prefix_rfl
  | .observe, _ => List.prefix_append _ _
  | .scope s body, st => execs_trace body { st with glob := s }
theorem execs_trace : ∀ (cs : List Cmd) (st : St), st.trace <+: (execs st cs).1.trace
  | [], _ => List.prefix_rfl
  | c :: cs, st => by
    rw [execs_cons]; split
    · exact exec1_trace c st
    · exact (exec1_trace c st).trans (execs_trace cs _)
end

theorem execs_cons_trace (st : St) (c : Cmd) (cs : List Cmd) :
    (exec1 st c).1.trace <+: (execs st (c :: cs)).1.trace := by
  rw [execs_cons]; split
  · exact List.prefix_rfl
  · exact execs_trace cs _

end FlowRecord.Equality
