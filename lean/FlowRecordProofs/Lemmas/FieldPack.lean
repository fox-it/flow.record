import FlowRecord.Model.FieldPack
/-!
The field-type layer: `_unpack` inverts `_pack` for every well-formed typed value (`WFT`, `unpackT_packT_both`); a typed
list that received plain elements in place packs like the list of the converted elements (`packHeld_eq`).
-/
namespace FlowRecord.FieldPack
open FlowRecord.Wire

theorem hexVal_hexDigit : ∀ n < 16, hexVal (hexDigit n) = some n := by decide

theorem lower_eq_hexDigit (c : Nat) (hc : 48 ≤ c ∧ c ≤ 57 ∨ 97 ≤ c ∧ c ≤ 102) : ∃ n, n < 16 ∧ c = hexDigit n := by
  rcases hc with ⟨h, h'⟩ | ⟨h, h'⟩
  · obtain ⟨d, rfl⟩ := Nat.exists_eq_add_of_le h
    exact ⟨d, by omega, by rw [hexDigit, if_pos (by omega)]⟩
  · obtain ⟨d, rfl⟩ := Nat.exists_eq_add_of_le h
    exact ⟨10 + d, by omega, by rw [hexDigit, if_neg (by omega), ← Nat.add_assoc]⟩

/-! Both directions on one byte, its two digits as variables: -/

theorem unhexlify_pair {x y : Nat} (hx : x < 16) (hy : y < 16) (rest : Str) :
    unhexlify (hexDigit x :: hexDigit y :: rest) = (unhexlify rest).map (UInt8.ofNat (16 * x + y) :: ·) := by
  rw [unhexlify, hexVal_hexDigit x hx, hexVal_hexDigit y hy]; cases unhexlify rest <;> rfl

theorem hexlify_pair {x y : Nat} (hx : x < 16) (hy : y < 16) (bs : Bytes) :
    hexlify (UInt8.ofNat (16 * x + y) :: bs) = hexDigit x :: hexDigit y :: hexlify bs := by
  rw [hexlify, UInt8.toNat_ofNat', Nat.mod_eq_of_lt (by omega), Nat.mul_add_div (by decide), Nat.mul_add_mod,
    Nat.div_eq_of_lt hy, Nat.mod_eq_of_lt hy, Nat.add_zero]

theorem unhexlify_hexlify (bs : Bytes) : unhexlify (hexlify bs) = some bs := by
  induction bs with
  | nil => rfl
  | cons b bs ih =>
    have hb : b.toNat < 16 * 16 := b.toNat_lt
    rw [hexlify, unhexlify_pair (Nat.div_lt_of_lt_mul hb) (Nat.mod_lt _ (by decide)), ih, Nat.div_add_mod,
      UInt8.ofNat_toNat]
    rfl

theorem hexlify_unhexlify_lower : ∀ (s : Str) (bs : Bytes), unhexlify s = some bs → isLowerHex s = true → hexlify bs = s
  | [], bs, h, _ => by cases h; rfl
  | [_], _, h, _ => by cases h
  | a :: b :: rest, bs, h, hl => by
    simp only [isLowerHex, List.all_cons, Bool.and_eq_true, Bool.or_eq_true, decide_eq_true_eq] at hl
    obtain ⟨x, hx, rfl⟩ := lower_eq_hexDigit a hl.1
    obtain ⟨y, hy, rfl⟩ := lower_eq_hexDigit b hl.2.1
    rw [unhexlify_pair hx hy, Option.map_eq_some_iff] at h
    obtain ⟨r, hr, rfl⟩ := h
    rw [hexlify_pair hx hy, hexlify_unhexlify_lower rest r hr hl.2.2]

/-- the hex text of one digest slot as the object may hold it: absent, or non-empty lower-case hex -/
def digestOK : Option Str → Prop
  | none => True
  | some s => isLowerHex s = true ∧ s ≠ []

/-- why `digestOK` asks for `s ≠ []`: a non-empty text has a non-empty digest, which `hexOpt` does not take for an
    absent one -/
theorem hexOpt_optBin {o : Option Str} {ob : Option Bytes} (hok : digestOK o) (h : optBin o = some ob) :
    hexOpt (rvOf (binPV ob)) = some o := by
  cases o with
  | none => cases h; rfl
  | some s =>
    obtain ⟨bs, hb, rfl⟩ := Option.map_eq_some_iff.mp h
    have hs := hexlify_unhexlify_lower s bs hb hok.1
    cases bs with
    | nil => exact absurd hs.symm hok.2
    | cons b bs => rw [← hs]; rfl

theorem strsOf_map (xs : List Str) : strsOf (rvOfList (xs.map PV.str)) = some xs := by
  induction xs with
  | nil => rfl
  | cons x xs ih => simp [rvOfList, rvOf, strsOf, ih]

theorem flavour_back {fl : Nat} (h : fl = Gen.TYPE_POSIX ∨ fl = Gen.TYPE_WINDOWS) :
    (if (fl : Int) = Gen.TYPE_WINDOWS then Gen.TYPE_WINDOWS else Gen.TYPE_POSIX) = fl := by
  obtain rfl | rfl := h <;> rfl

mutual
  /-- a typed value that the field type itself could have produced: digests in lower-case hex, paths in pathlib's
      normal form, an address whose family agrees with its magnitude, lists without unset elements -/
  def WFT (norm : Nat → Str → Str) : Kind → TVal → Prop
    | _, .unset => True
    | .text, .text _ => True
    | .int, .int _ => True
    | .bool, .bool _ => True
    | .float, .float _ => True
    | .bytes, .bytes _ => True
    | .digest, .digest m s1 s2 => digestOK m ∧ digestOK s1 ∧ digestOK s2
    | .path, .path fl t => (fl = Gen.TYPE_POSIX ∨ fl = Gen.TYPE_WINDOWS) ∧ norm fl t = t
    | .command, .command fl (some exe) _ => (fl = Gen.TYPE_POSIX ∨ fl = Gen.TYPE_WINDOWS) ∧ norm fl exe = exe
    | .command, .command fl none args => (fl = Gen.TYPE_POSIX ∨ fl = Gen.TYPE_WINDOWS) ∧ args = []
    | .ip, .ip ver v => (ver = 4 ∧ v < 4294967296) ∨
        (ver = 6 ∧ 4294967296 ≤ v ∧ v < 340282366920938463463374607431768211456)
    | .ipnet, .ipnet _ => True
    | .list k, .list xs => WFTs norm k xs
    | _, _ => False
  def WFTs (norm : Nat → Str → Str) : Kind → List TVal → Prop
    | _, [] => True
    | k, x :: xs => x ≠ .unset ∧ WFT norm k x ∧ WFTs norm k xs
end

/-- For values and for lists at once, along the clauses of `packT` / `packTs` themselves (`packT.mutual_induct`), so
    that what each clause matched on (`optBin m = some a`, `packT k x = some a`) is a hypothesis and the values of
    another kind are one case. The goals are named in the source order of the clauses. -/
theorem unpackT_packT_both (norm : Nat → Str → Str) :
    (∀ k v, ∀ pv, WFT norm k v → packT k v = some pv → unpackT norm k (rvOf pv) = some v) ∧
    (∀ k xs, ∀ ps, WFTs norm k xs → packTs k xs = some ps → unpackTs norm k (rvOfList ps) = some xs) := by
  refine packT.mutual_induct _ _ ?unset ?text ?int ?bool ?float ?bytes ?digest ?digestBad ?path ?command ?commandNone
    ?ip ?ipnet ?list ?otherKind ?nil ?cons ?consBad
  case unset | text | int | bool | float | bytes | ipnet =>         -- the packed value is the value itself
    intros; rename_i hp; cases hp; simp only [rvOf, unpackT]
  case digest =>
    intro m s1 s2 a b c hc hb ha pv hw hp
    simp only [packT, ha, hb, hc, Option.some.injEq] at hp; subst hp
    simp only [rvOf, rvOfList, unpackT, hexOpt_optBin hw.1 ha, hexOpt_optBin hw.2.1 hb, hexOpt_optBin hw.2.2 hc]
  case path =>
    intro fl t pv hw hp
    cases hp
    simp only [rvOf, rvOfList, unpackT, Int.natCast_inj, hw.1, if_true, Int.toNat_natCast, hw.2]
  case command =>
    intro fl exe args pv hw hp
    cases hp
    simp only [rvOf, rvOfList, unpackT, strsOf_map, flavour_back hw.1, Option.map_some, hw.2]
  case commandNone =>
    intro fl args pv hw hp
    cases hp
    simp only [rvOf, rvOfList, unpackT, flavour_back hw.1, hw.2]
  case ip =>
    intro ver v pv hw hp
    cases hp
    simp only [rvOf, unpackT]
    obtain ⟨rfl, h2⟩ | ⟨rfl, h2, h3⟩ := hw
    · rw [if_pos (by omega), Int.toNat_natCast]
    · rw [if_neg (by omega), if_pos (by omega), Int.toNat_natCast]
  case list =>
    intro k xs ih pv hw hp
    simp only [packT, Option.map_eq_some_iff] at hp
    obtain ⟨ps, h1, rfl⟩ := hp
    simp only [rvOf, unpackT, ih ps hw h1]
    rfl
  case nil => intro k ps _ hp; cases hp; rfl
  case cons =>
    intro k x xs a r h2 h1 ih1 ih2 ps hw hp
    simp only [packTs, h1, h2, Option.some.injEq] at hp; subst hp
    simp only [rvOfList, unpackTs, ih1 a hw.2.1 h1, ih2 r hw.2.2 h2]
  -- the clauses that return `none`
  case digestBad | otherKind | consBad => intros; rename_i hp; simp only [packT, packTs] at hp; cases hp

theorem unpackT_packT (norm : Nat → Str → Str) (k : Kind) (v : TVal) (pv : PV) (hw : WFT norm k v)
    (hp : packT k v = some pv) : unpackT norm k (rvOf pv) = some v :=
  (unpackT_packT_both norm).1 k v pv hw hp

theorem unpackTs_packTs (norm : Nat → Str → Str) (k : Kind) (xs : List TVal) (ps : List PV) (hw : WFTs norm k xs)
    (hp : packTs k xs = some ps) : unpackTs norm k (rvOfList ps) = some xs :=
  (unpackT_packT_both norm).2 k xs ps hw hp

/-- `hgen` (the source converts before packing) is a hypothesis here; `packHeld_list` evaluates it from `Gen` -/
theorem packHeld_eq {R : Type} (conv : R → Option TVal) (k : Kind) (hgen : Gen.typedlistPackConvertsRaw = true) :
    ∀ (xs : List (TVal ⊕ R)) (ts : List TVal), heldValues conv xs = some ts → packHeld conv k xs = packTs k ts
  | [], ts, h => by cases h; rfl
  | .inl t :: xs, ts, h => by
    simp only [heldValues, Option.map_eq_some_iff] at h
    obtain ⟨ts', h1, rfl⟩ := h
    simp only [packHeld, packTs, packHeld_eq conv k hgen xs ts' h1]
  | .inr r :: xs, ts, h => by
    simp only [heldValues] at h
    split at h
    · rename_i t ts' hc hv
      cases h
      simp only [packHeld, hgen, if_true, hc, Option.bind_some, packTs, packHeld_eq conv k hgen xs ts' hv]
    · cases h

theorem packHeld_list {R : Type} (conv : R → Option TVal) (k : Kind) (xs : List (TVal ⊕ R)) (ts : List TVal)
    (h : heldValues conv xs = some ts) : (packHeld conv k xs).map PV.seq = packT (.list k) (.list ts) := by
  rw [packHeld_eq conv k (by decide) xs ts h, packT]

end FlowRecord.FieldPack
