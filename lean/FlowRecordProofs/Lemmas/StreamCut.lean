import FlowRecordProofs.Lemmas.StreamRoundtrip
import FlowRecordProofs.Lemmas.HeaderMagic
/-!
Histories at the byte level. One theorem, `read_cut_writeHist`, by induction over the entries of a history: writes may
raise, the bytes may be cut at ANY position, and the reader yields exactly the objects of the entries that lie
completely inside the cut (`CutAt`), then ends with EOF or with "incomplete input". Which of the two is known for one
cut frame (`read_cut_frame`); the statements about frame lists and histories keep only the disjunction. The round trip
(C01) is the cut at the end, `writeAll` the history `allOk`; a fresh writer adds the header frame
(`readAll_cut_writeHist`).
-/
open FlowRecord.Msgpack FlowRecord.Utf8 FlowRecord.Wire
namespace FlowRecord.Stream

theorem read_cut_frame (hashOf : PyStr → List (PyStr × PyStr) → Nat) (fuel : Nat) (reg : Registry) (m : MVal)
    (hw : WF m) (hl : (enc m).length < 4294967296) (j : Nat) (hj : j < (frameBytes (enc m)).length) :
    readFramesH hashOf (fuel + 1) reg ((frameBytes (enc m)).take j) =
      ([], if j < 4 then End.eof else End.error .incomplete) := by
  rw [frameBytes_length] at hj
  by_cases h4 : j < 4
  · rw [if_pos h4, read_short (Nat.lt_of_le_of_lt (List.length_take_le _ _) h4)]
  · have hnf : nextFrame ((frameBytes (enc m)).take j) = some ((enc m).take (j - 4), []) := by
      rw [frameBytes_take _ j (Nat.le_of_not_lt h4), nextFrame_beEnc _ _ hl,
        List.take_of_length_le (List.length_take_le' _ _), List.drop_of_length_le (List.length_take_le' _ _)]
    rw [if_neg h4, read_error hnf (decodeFrame_take reg hw (by omega))]

theorem read_cut_frames {hashOf : PyStr → List (PyStr × PyStr) → Nat} {afs : List AFrame} {bodies : List Bytes}
    {reg : Registry} (fuel : Nat) {k : Nat} (hok : FramesOK hashOf reg afs)
    (hb : afs.mapM encFrame = some bodies) (hsz : ∀ b ∈ bodies, b.length < 4294967296)
    (hk : k < (streamOf bodies).length) :
    ∃ m e, m < afs.length ∧ (e = End.eof ∨ e = End.error .incomplete) ∧
      readFramesH hashOf (fuel + bodies.length) reg ((streamOf bodies).take k) = (rvOfList (objsOf (afs.take m)), e) := by
  induction afs generalizing bodies reg k with
  | nil =>
    obtain rfl : [] = bodies := by simpa using hb
    exact absurd hk (Nat.not_lt_zero _)
  | cons a as ih =>
    obtain ⟨b, bs, ha, hbs, rfl⟩ := mapM_cons_eq_some.mp hb
    obtain ⟨hok1, hok2⟩ := (framesOK_append [a] as).mp hok
    obtain ⟨hl, hsz⟩ := List.forall_mem_cons.mp hsz
    rw [streamOf_cons, List.length_append] at hk
    rw [streamOf_cons]
    by_cases h1 : k < (frameBytes b).length
    · obtain ⟨m, hw, rfl⟩ := encFrame_WF hok1 ha
      refine ⟨0, if k < 4 then .eof else .error .incomplete, by simp, by split <;> simp, ?_⟩
      rw [List.take_append_of_le_length (Nat.le_of_lt h1)]
      exact read_cut_frame hashOf (fuel + bs.length) reg m hw hl k h1
    · obtain ⟨k, rfl⟩ := Nat.exists_eq_add_of_le (Nat.le_of_not_lt h1)
      obtain ⟨m, e, hm, he, hr⟩ := ih hok2 hbs hsz (Nat.lt_of_add_lt_add_left hk)
      refine ⟨m + 1, e, Nat.succ_lt_succ hm, he, ?_⟩
      rw [List.take_length_add_append]
      show readFramesH hashOf (fuel + bs.length + 1) reg _ = _
      rw [read_frame _ _ hok1 ha hl, hr]
      cases a <;> rfl

/-- An admissible history as seen from a writer's registry: every object is a record (possibly holding nested
    records) or a grouped record, every descriptor that gets emitted is encodable and is hashed by the reader as by the
    writer, and the object is admissible in the registry that is in force once its descriptors are registered. -/
def HistOK (hashOf : PyStr → List (PyStr × PyStr) → Nat) : Registry → List PV → Prop
  | _, [] => True
  | reg, o :: os =>
    IsObj o ∧
    (∀ d' ∈ (newDescs reg (descsOf o)).2, DescOK d' ∧ hashOf d'.name d'.fields = d'.hash) ∧
    PVOK (newDescs reg (descsOf o)).1 o ∧
    HistOK hashOf (newDescs reg (descsOf o)).1 os

/-- admissible histories with failing writes: for a succeeding write exactly the conditions of `HistOK`; for a failing
    one only that the descriptor frames it leaves behind are encodable and hashed by the reader as by the writer -/
def HistOKF (hashOf : PyStr → List (PyStr × PyStr) → Nat) : Registry → List (PV × Option Nat) → Prop
  | _, [] => True
  | reg, (o, none) :: os =>
    IsObj o ∧
    (∀ d' ∈ (newDescs reg (descsOf o)).2, DescOK d' ∧ hashOf d'.name d'.fields = d'.hash) ∧
    PVOK (newDescs reg (descsOf o)).1 o ∧
    HistOKF hashOf (newDescs reg (descsOf o)).1 os
  | reg, (o, some k) :: os =>
    (∀ d' ∈ (newDescs reg ((descsOf o).take k)).2, DescOK d' ∧ hashOf d'.name d'.fields = d'.hash) ∧
    HistOKF hashOf (newDescs reg ((descsOf o).take k)).1 os

/-- the objects whose write succeeded, in order -/
def okObjs (h : List (PV × Option Nat)) : List PV := (h.filter (fun e => e.2.isNone)).map (·.1)

section
variable {hashOf : PyStr → List (PyStr × PyStr) → Nat}

theorem histOKF_all_ok {os : List PV} {reg : Registry} : HistOKF hashOf reg (allOk os) ↔ HistOK hashOf reg os := by
  induction os generalizing reg with
  | nil => rfl
  | cons o os ih => simp only [allOk, List.map_cons, HistOKF, HistOK, ih]

theorem okObjs_all_ok (os : List PV) : okObjs (allOk os) = os := by
  simp [okObjs, List.filter_eq_self.mpr, Function.comp_def]

theorem histOKF_cons {reg : Registry} {e : Entry} {es : List Entry} (h : HistOKF hashOf reg (e :: es)) :
    FramesOK hashOf reg (emitEntry reg e).2 ∧ HistOKF hashOf (emitEntry reg e).1 es := by
  obtain ⟨o, _ | k⟩ := e
  · obtain ⟨hobj, hds, hpv, hrest⟩ := h
    exact ⟨framesOK_emit hobj hds hpv, hrest⟩
  · exact ⟨(framesOK_descs reg _).mpr h.1, h.2⟩

theorem okObjs_cons (e : Entry) (es : List Entry) : okObjs (e :: es) = okObjs [e] ++ okObjs es := by
  obtain ⟨o, _ | k⟩ := e <;> rfl

theorem objsOf_emitEntry (reg : Registry) (e : Entry) : objsOf (emitEntry reg e).2 = okObjs [e] := by
  obtain ⟨o, _ | k⟩ := e
  · exact objsOf_emit reg o
  · exact objsOf_descs _

/-- only the last frame of an entry carries an object -/
theorem objsOf_take_emitEntry {reg : Registry} {e : Entry} {m : Nat} (hm : m < (emitEntry reg e).2.length) :
    objsOf ((emitEntry reg e).2.take m) = [] := by
  obtain ⟨o, _ | k⟩ := e
  · simp only [emitEntry, emit, List.length_append, List.length_cons, List.length_nil] at hm ⊢
    rw [List.take_append_of_le_length (by omega), ← List.map_take, objsOf_descs]
  · rw [emitEntry, emitFailed, ← List.map_take, objsOf_descs]

/-- where the cut at `k` falls: `j` entries of the history `hist`, written on `st`, lie completely inside the first `k`
    bytes of its output, and `j + 1` entries, if there are as many, do not -/
def CutAt (st : WState) (hist : List Entry) (k j : Nat) : Prop :=
  (∃ stn fn, writeHist st (hist.take j) = some (stn, fn) ∧ (streamOf fn).length ≤ k) ∧
  (j < hist.length → ∃ stn fn, writeHist st (hist.take (j + 1)) = some (stn, fn) ∧ k < (streamOf fn).length)

section
variable {st st1 : WState} {e : Entry} {es : List Entry} {f1 : List Bytes} {k j : Nat}

theorem CutAt.nil : CutAt st [] k 0 :=
  ⟨⟨st, [], rfl, Nat.zero_le _⟩, nofun⟩

theorem CutAt.zero (h1 : writeEntry st e = some (st1, f1)) (hk : k < (streamOf f1).length) :
    CutAt st (e :: es) k 0 :=
  ⟨⟨st, [], rfl, Nat.zero_le _⟩,
    fun _ => ⟨st1, f1 ++ [], writeHist_cons.mpr ⟨st1, f1, [], h1, rfl, rfl⟩, by rwa [List.append_nil]⟩⟩

theorem CutAt.succ (h1 : writeEntry st e = some (st1, f1)) (h : CutAt st1 es k j) :
    CutAt st (e :: es) ((streamOf f1).length + k) (j + 1) := by
  obtain ⟨⟨stn, fn, hw, hl⟩, hnext⟩ := h
  refine ⟨⟨stn, f1 ++ fn, writeHist_cons.mpr ⟨st1, f1, fn, h1, hw, rfl⟩, ?_⟩, fun hlt => ?_⟩
  · rw [streamOf_append, List.length_append]; exact Nat.add_le_add_left hl _
  · obtain ⟨stn', fn', hw', hl'⟩ := hnext (Nat.lt_of_succ_lt_succ hlt)
    exact ⟨stn', f1 ++ fn', writeHist_cons.mpr ⟨st1, f1, fn', h1, hw', rfl⟩,
      by rw [streamOf_append, List.length_append]; exact Nat.add_lt_add_left hl' _⟩
end

theorem read_cut_writeHist {hist : List Entry} {st st' : WState} {frames : List Bytes} (fuel k : Nat)
    (hw : writeHist st hist = some (st', frames)) (hhdr : st.headerWritten = true)
    (hok : HistOKF hashOf st.registry hist) (hsz : ∀ b ∈ frames, b.length < 4294967296) :
    ∃ j e, j ≤ hist.length ∧ (e = End.eof ∨ e = End.error .incomplete) ∧
      readFramesH hashOf (fuel + frames.length) st.registry ((streamOf frames).take k) =
        (rvOfList (okObjs (hist.take j)), e) ∧
      ((streamOf frames).length ≤ k → j = hist.length ∧ e = End.eof) ∧ CutAt st hist k j := by
  induction hist generalizing st frames k with
  | nil =>
    obtain ⟨-, rfl⟩ := Prod.mk.inj (Option.some.inj hw)
    exact ⟨0, .eof, Nat.le_refl _, .inl rfl, read_short (by simp), fun _ => ⟨rfl, rfl⟩, .nil⟩
  | cons e es ih =>
    obtain ⟨st1, f1, f2, h1, h2, rfl⟩ := writeHist_cons.mp hw
    obtain ⟨hb, hreg, hh1⟩ := writeEntry_written hhdr h1
    obtain ⟨hok1, hoks⟩ := histOKF_cons hok
    obtain ⟨hsz1, hsz2⟩ := List.forall_mem_append.mp hsz
    rw [streamOf_append, List.length_append, List.length_append, ← Nat.add_assoc, Nat.add_right_comm]
    by_cases hk : (streamOf f1).length ≤ k
    · obtain ⟨k, rfl⟩ := Nat.exists_eq_add_of_le hk
      obtain ⟨j, e', hj, he, hrd, hfull, hcut⟩ := ih k h2 hh1 (hreg ▸ hoks) hsz2
      refine ⟨j + 1, e', Nat.succ_le_succ hj, he, ?_,
        fun hlen => (hfull (Nat.le_of_add_le_add_left hlen)).imp (congrArg (· + 1)) id, hcut.succ h1⟩
      rw [List.take_length_add_append, read_frames _ _ hok1 hb hsz1, consumeReg_emitEntry, ← hreg, hrd,
        objsOf_emitEntry, List.take_succ_cons, okObjs_cons e (es.take j), rvOfList_append]
    · have hk' : k < (streamOf f1).length := Nat.lt_of_not_le hk
      obtain ⟨m, e', hm, he, hrd⟩ := read_cut_frames (fuel + f2.length) hok1 hb hsz1 hk'
      rw [objsOf_take_emitEntry hm] at hrd
      refine ⟨0, e', Nat.zero_le _, he, ?_, fun hlen => absurd (Nat.le_trans (Nat.le_add_right _ _) hlen) hk,
        .zero h1 hk'⟩
      rw [List.take_append_of_le_length (Nat.le_of_lt hk'), hrd]; rfl

theorem read_writeHist {hist : List Entry} {st st' : WState} {frames : List Bytes} (fuel : Nat)
    (hw : writeHist st hist = some (st', frames)) (hhdr : st.headerWritten = true)
    (hok : HistOKF hashOf st.registry hist) (hsz : ∀ b ∈ frames, b.length < 4294967296) :
    readFramesH hashOf (fuel + frames.length) st.registry (streamOf frames) = (rvOfList (okObjs hist), .eof) := by
  obtain ⟨j, e, -, -, hrd, hfull, -⟩ := read_cut_writeHist fuel _ hw hhdr hok hsz
  obtain ⟨rfl, rfl⟩ := hfull (Nat.le_refl _)
  rwa [List.take_length, List.take_length] at hrd

/-- the first call on a fresh writer puts the header frame first, whatever its outcome -/
theorem writeHist_init {e : Entry} {es : List Entry} {st' : WState} {frames : List Bytes}
    (hw : writeHist WState.init (e :: es) = some (st', frames)) :
    ∃ fs, writeHist { headerWritten := true, registry := [] } (e :: es) = some (st', fs) ∧ frames = magicBody :: fs ∧
      (streamOf frames).length = headerLen + (streamOf fs).length := by
  obtain ⟨st1, f1, f2, h1, h2, rfl⟩ := writeHist_cons.mp hw
  obtain ⟨bs, hb, rfl, rfl⟩ := writeEntry_some h1
  refine ⟨bs ++ f2, writeHist_cons.mpr ⟨_, bs, f2, ?_, h2, rfl⟩, rfl, ?_⟩
  · rw [writeEntry_eq]; exact congrArg _ hb
  · show (streamOf (magicBody :: (bs ++ f2))).length = _
    rw [streamOf_cons, List.length_append, headerFrame_length]

theorem readAll_header (rest : Bytes) (n : Nat) :
    readAll hashOf (frameBytes magicBody ++ rest) = readFramesH hashOf (rest.length + n) [] rest := by
  rw [readAll, readHeader_magic]
  exact readFramesH_fuel hashOf _ _ [] rest (by omega) (by omega)

theorem readAll_cut_header {k : Nat} (hk : k < headerLen) :
    readAll hashOf ((frameBytes magicBody).take k) = ([], .notAStream) := by
  rw [readAll, readHeader_cut k hk]

/-- Where the cut falls is said in the form `C04_records_prefix` has, about the fresh writer's own output, header frame
    included, and not by `CutAt`, which speaks of the writer after the header. -/
theorem readAll_cut_writeHist {hist : List Entry} (hne : hist ≠ []) {st' : WState} {frames : List Bytes}
    (k : Nat) (hw : writeHist WState.init hist = some (st', frames))
    (hok : HistOKF hashOf [] hist) (hsz : ∀ b ∈ frames, b.length < 4294967296) :
    ∃ j en, j ≤ hist.length ∧
      readAll hashOf ((streamOf frames).take k) = (rvOfList (okObjs (hist.take j)), en) ∧
      (en = End.eof ∨ en = End.error .incomplete ∨ (en = End.notAStream ∧ j = 0 ∧ k < headerLen)) ∧
      ((streamOf frames).length ≤ k → j = hist.length ∧ en = End.eof) ∧
      (0 < j → ∀ stn fn, writeHist WState.init (hist.take j) = some (stn, fn) → (streamOf fn).length ≤ k) ∧
      (j < hist.length → ∀ stn fn, writeHist WState.init (hist.take (j + 1)) = some (stn, fn) →
        k < (streamOf fn).length) := by
  obtain ⟨e, es, rfl⟩ := List.exists_cons_of_ne_nil hne
  obtain ⟨fs, hw', rfl, hlen⟩ := writeHist_init hw
  -- what the fresh writer emits for a prefix of the history is what `CutAt` speaks of, one header frame longer
  have shift {n : Nat} {stn stn' : WState} {fn fn' : List Bytes}
      (h : writeHist WState.init ((e :: es).take (n + 1)) = some (stn, fn))
      (h' : writeHist { headerWritten := true, registry := [] } ((e :: es).take (n + 1)) = some (stn', fn')) :
      (streamOf fn).length = headerLen + (streamOf fn').length := by
    obtain ⟨fs2, h2, -, hlen2⟩ := writeHist_init h
    cases h'.symm.trans h2
    exact hlen2
  have hl := headerFrame_length
  rw [hlen, streamOf_cons]
  by_cases hk : headerLen ≤ k
  · obtain ⟨k, rfl⟩ := Nat.exists_eq_add_of_le hk
    obtain ⟨j, en, hj, he, hrd, hfull, ⟨stn, fn, hwn, hln⟩, hnext⟩ :=
      read_cut_writeHist ((streamOf fs).take k).length k hw' rfl hok (List.forall_mem_cons.mp hsz).2
    refine ⟨j, en, hj, ?_, he.imp_right .inl, fun h => hfull (Nat.le_of_add_le_add_left h),
      fun hpos stn2 fn2 hw2 => ?_, fun hlt stn2 fn2 hw2 => ?_⟩
    · rw [← hl, List.take_length_add_append, readAll_header _ fs.length]
      exact hrd
    · obtain ⟨j, rfl⟩ := Nat.exists_eq_succ_of_ne_zero (Nat.ne_of_gt hpos)
      exact shift hw2 hwn ▸ Nat.add_le_add_left hln _
    · obtain ⟨stn3, fn3, hw3, hl3⟩ := hnext hlt
      exact shift hw2 hw3 ▸ Nat.add_lt_add_left hl3 _
  · have hk' : k < headerLen := Nat.lt_of_not_le hk
    refine ⟨0, .notAStream, Nat.zero_le _, ?_, .inr (.inr ⟨rfl, rfl, hk'⟩),
      fun h => absurd (Nat.le_trans (Nat.le_add_right _ _) h) hk, nofun, fun _ stn2 fn2 hw2 => ?_⟩
    · rw [List.take_append_of_le_length (hl ▸ Nat.le_of_lt hk'), readAll_cut_header hk']; rfl
    · obtain ⟨fs2, -, -, hlen2⟩ := writeHist_init hw2
      exact hlen2 ▸ Nat.lt_of_lt_of_le hk' (Nat.le_add_right _ _)
end

theorem readAll_writeHist (hashOf : PyStr → List (PyStr × PyStr) → Nat) (e : PV × Option Nat)
    (es : List (PV × Option Nat)) (st' : WState) (frames : List Bytes)
    (hw : writeHist WState.init (e :: es) = some (st', frames))
    (hok : HistOKF hashOf [] (e :: es)) (hsz : ∀ b ∈ frames, b.length < 4294967296) :
    readAll hashOf (streamOf frames) = (rvOfList (okObjs (e :: es)), .eof) := by
  obtain ⟨j, en, -, hrd, -, hfull, -⟩ := readAll_cut_writeHist (List.cons_ne_nil e es) _ hw hok hsz
  obtain ⟨rfl, rfl⟩ := hfull (Nat.le_refl _)
  rwa [List.take_length, List.take_length] at hrd

/-- The frames of one `write`, cut before their end: a corollary of `read_cut_frames` that the history theorems do not
    use. -/
theorem read_cut_group (hashOf : PyStr → List (PyStr × PyStr) → Nat) (ds : List Desc) (bodies : List Bytes)
    (mlast : MVal) (reg : Registry) (fuel k : Nat)
    (hds : ∀ d ∈ ds, DescOK d ∧ hashOf d.name d.fields = d.hash)
    (hb : ds.mapM (fun d => (toM (.desc d)).map enc) = some bodies)
    (hwl : WF mlast) (hsz : ∀ b ∈ bodies ++ [enc mlast], b.length < 4294967296)
    (hk : k < (streamOf (bodies ++ [enc mlast])).length) :
    ∃ e, (e = End.eof ∨ e = End.error .incomplete) ∧
      readFramesH hashOf (fuel + ds.length + 1) reg ((streamOf (bodies ++ [enc mlast])).take k) = ([], e) := by
  have hok := (framesOK_descs reg ds).mpr hds
  have hb' : (ds.map AFrame.desc).mapM encFrame = some bodies := by rw [List.mapM_map]; exact hb
  obtain ⟨hsz', hlast⟩ := List.forall_mem_append.mp hsz
  rw [streamOf_append, streamOf_cons, streamOf_nil, List.append_nil] at hk ⊢
  rw [← mapM_length hb, Nat.add_right_comm]
  by_cases h : k < (streamOf bodies).length
  · obtain ⟨m, e, -, he, hr⟩ := read_cut_frames (fuel + 1) hok hb' hsz' h
    rw [← List.map_take, objsOf_descs] at hr
    exact ⟨e, he, by rw [List.take_append_of_le_length (Nat.le_of_lt h), hr]; rfl⟩
  · obtain ⟨k, rfl⟩ := Nat.exists_eq_add_of_le (Nat.le_of_not_lt h)
    rw [List.length_append] at hk
    refine ⟨if k < 4 then .eof else .error .incomplete, by split <;> simp, ?_⟩
    rw [List.take_length_add_append, read_frames _ (fuel + 1) hok hb' hsz', objsOf_descs,
      read_cut_frame hashOf fuel _ mlast hwl (hlast _ (List.mem_singleton_self _)) _ (Nat.lt_of_add_lt_add_left hk)]
    rfl

end FlowRecord.Stream
