import FlowRecord.Model.Readers
/-!
C10: `filterRun` commutes with the reader loops, one `*Loop_filter` per loop shape, each by `emit_filter`; the threaded
and the compiled matcher run. For C18: the `fetchmany` loop.
-/
namespace FlowRecord.Readers
variable {R E : Type}

@[simp] theorem filterRun_done (m : Matcher R E) : filterRun m (Run.done : Run R E) = Run.done := rfl
@[simp] theorem filterRun_fail (m : Matcher R E) (e : E) : filterRun m (Run.fail e : Run R E) = Run.fail e := rfl

/-- By definition: `filterAfter` treats its first record the way `emit` treats a guarded one. -/
theorem filterRun_cons (m : Matcher R E) (r : R) (k : Run R E) :
    filterRun m (Run.cons r k) = emit true (some m) r (filterRun m k) := rfl

@[simp] theorem emit_none (g : Bool) (r : R) (k : Run R E) : emit g (none : Option (Matcher R E)) r k = Run.cons r k := by
  cases g <;> rfl

@[simp] theorem emit_unguarded (sel : Option (Matcher R E)) (r : R) (k : Run R E) :
    emit false sel r k = Run.cons r k := by
  cases sel <;> rfl

/-- The step lemma of every loop. -/
theorem emit_filter (m : Matcher R E) {g : Bool} {r : R} {k : Run R E} :
    emit true (some m) r (filterRun m k) = filterRun m (emit g none r k) := by
  rw [emit_none, filterRun_cons]

/- The loop lemmas go along the loop WITHOUT selector: no test of a loop looks at the selector, so the loop with
   selector takes the same branch, and where a record is yielded the two sides differ by `emit_filter`. -/
theorem streamLoop_filter {I D P : Type} [DecidableEq I] (cfg : StreamCfg) (hg : cfg.guarded = true)
    (mk : D → P → R) (nf bh : E) (m : Matcher R E) (reg : List (I × D)) (fs : List (Frame I D P E)) :
    streamLoop cfg mk nf bh (some m) reg fs = filterRun m (streamLoop cfg mk nf bh none reg fs) := by
  -- end of input (1); a header, skipped (2) or refused (3); a descriptor (4); a record whose descriptors are all
  -- registered (5) or not (6); a broken frame (7)
  fun_induction streamLoop cfg mk nf bh none reg fs with
  | case1 => rfl
  | case2 reg t h ih => rw [streamLoop, if_pos h, ih]
  | case3 reg t h => rw [streamLoop, if_neg h]; rfl
  | case4 reg i d t ih => exact ih
  | case5 reg i nested p t d hd hn ih => rw [streamLoop, hd, hn, ih, hg]; exact emit_filter m
  | case6 reg i nested p t h =>
    rw [streamLoop]; split
    · exact (h _ ‹_› ‹_›).elim
    · rfl
  | case7 => rfl

theorem jsonLoop_filter {I : Type} [DecidableEq I] (cfg : JsonCfg) (h1 : cfg.guardRecord = true)
    (h2 : cfg.guardFallback = true) (nf : E) (m : Matcher R E) (reg : List I) (ls : List (JsonLine I R E)) :
    jsonLoop cfg nf (some m) reg ls = filterRun m (jsonLoop cfg nf none reg ls) := by
  -- end of input (1); a record line whose descriptor is known (2) or not (3); a descriptor line (4); any other object,
  -- built (5) or refused (6); not JSON (7)
  fun_induction jsonLoop cfg nf none reg ls with
  | case1 => rfl
  | case2 reg i r t h ih => rw [jsonLoop, if_pos h, ih, h1]; exact emit_filter m
  | case3 reg i r t h => rw [jsonLoop, if_neg h]; rfl
  | case4 reg i t ih => exact ih
  | case5 reg r t ih => rw [jsonLoop, ih, h2]; exact emit_filter m
  | case6 | case7 => rfl

theorem mapLoop_filter {X : Type} (mk : X → Except E R) (m : Matcher R E) (xs : List X) :
    mapLoop true mk (some m) xs = filterRun m (mapLoop true mk none xs) := by
  -- end of input (1); an item that makes a record (2) or raises (3)
  fun_induction mapLoop true mk none xs with
  | case1 => rfl
  | case2 x t r hr ih => rw [mapLoop, hr, ih]; exact emit_filter m
  | case3 x t e he => rw [mapLoop, he]; rfl

theorem mapLoop_none_guard {X : Type} (g : Bool) (mk : X → Except E R) (xs : List X) :
    mapLoop g mk (none : Option (Matcher R E)) xs = mapLoop true mk none xs := by
  induction xs with
  | nil => rfl
  | cons x t ih => simp only [mapLoop, emit_none, ih]

theorem filterAfter_sublist (m : Matcher R E) (rs : List R) (e : Option E) :
    (filterAfter m rs e).out.Sublist rs := by
  fun_induction filterAfter m rs e with
  | case1 => exact .slnil
  | case2 r rs e h ih => exact ih.cons_cons r
  | case3 r rs e h ih => exact ih.cons r
  | case4 r rs e x h => exact List.nil_sublist _

theorem filterAfter_total (m : Matcher R E) (p : R → Bool) (rs : List R) (e : Option E)
    (h : ∀ r ∈ rs, m r = .ok (p r)) : filterAfter m rs e = ⟨rs.filter p, e⟩ := by
  induction rs with
  | nil => rfl
  | cons r t ih =>
    obtain ⟨hr, ht⟩ := List.forall_mem_cons.mp h
    rw [filterAfter, hr, ih ht]
    cases hp : p r <;> simp [Run.cons, hp]

variable {S T : Type}

section threaded
variable {reads consts reset : List String} {fresh : R → String → S} {eval : R → MState S → T × MState S}

theorem matchesStep_indep (hcover : ∀ f ∈ reads, f ∈ reset ∨ f ∈ consts)
    (hreads : ∀ r st st', (∀ f ∈ reads, st f = st' f) → (eval r st).1 = (eval r st').1)
    {st st' : MState S} (hagree : ∀ f ∈ consts, f ∉ reset → st f = st' f) (r : R) :
    (matchesStep reset fresh eval st r).1 = (matchesStep reset fresh eval st' r).1 := by
  unfold matchesStep
  apply hreads
  intro f hf
  by_cases hr : f ∈ reset
  · simp [hr]
  · simp only [hr, if_false]
    rcases hcover f hf with h | h
    · exact absurd h hr
    · exact hagree f h hr

theorem matchesStep_keeps_consts (hconst : ∀ r st, ∀ f ∈ consts, (eval r st).2 f = st f) (st : MState S) (r : R) :
    ∀ f ∈ consts, f ∉ reset → (matchesStep reset fresh eval st r).2 f = st f := by
  intro f hf hr
  unfold matchesStep
  rw [hconst r _ f hf]
  simp [hr]

/-- `eval` looks only at the attributes `reads`, each of which `matches` re-assigns (`reset`) or nothing ever writes
    (`consts`). The invariant is the hypothesis on `st`: the running state agrees with `init` on the constants that
    are not reset (`init` itself does, by `rfl`). -/
theorem runThreaded_eq_map (hcover : ∀ f ∈ reads, f ∈ reset ∨ f ∈ consts)
    (hreads : ∀ r st st', (∀ f ∈ reads, st f = st' f) → (eval r st).1 = (eval r st').1)
    (hconst : ∀ r st, ∀ f ∈ consts, (eval r st).2 f = st f) (init : MState S) (rs : List R) :
    ∀ st, (∀ f ∈ consts, f ∉ reset → st f = init f) →
      runThreaded reset fresh eval st rs = rs.map (matchFresh reset fresh eval init) := by
  induction rs with
  | nil => intro st _; rfl
  | cons r t ih =>
    intro st hst
    simp only [runThreaded, List.map_cons]
    congr 1
    · exact matchesStep_indep hcover hreads hst r
    · apply ih
      intro f hf hr
      rw [matchesStep_keeps_consts hconst st r f hf hr]
      exact hst f hf hr
end threaded

theorem runCompiled_eq_map {N : Type} (eval : R → N → T × N) (ns : N) (rs : List R) :
    runCompiled true eval ns rs = rs.map (fun r => (eval r ns).1) := by
  induction rs with
  | nil => rfl
  | cons r t ih => simp only [runCompiled, compiledStep, List.map_cons, if_true]; rw [ih]

theorem execWrite_world {W : Type} (wr : String → S → W → W) (m : Machine S W) (t : Target) (v : S)
    (h : t.isForeign = false) : (execWrite wr m t v).world = m.world := by
  cases t with
  | foreign w => cases h
  | _ => rfl

theorem execWrites_world {W : Type} (wr : String → S → W → W) (ws : List (Target × S))
    (h : ∀ w ∈ ws, w.1.isForeign = false) : ∀ m : Machine S W, (execWrites wr m ws).world = m.world := by
  induction ws with
  | nil => intro m; rfl
  | cons w t ih =>
    intro m
    rw [execWrites, ih (fun x hx => h x (List.mem_cons_of_mem _ hx)), execWrite_world wr m w.1 w.2 (h w List.mem_cons_self)]

theorem fetchLoop_flatten {X : Type} (batch : Nat) (hb : 1 ≤ batch) :
    ∀ (fuel : Nat) (rows : List X), rows.length < fuel → (fetchLoop batch fuel rows).flatten = rows := by
  intro fuel rows
  fun_induction fetchLoop batch fuel rows with
  | case1 => intro h; omega
  | case2 fuel rows b hempty =>
    -- an empty fetch of at least one row: the table is exhausted
    rcases List.take_eq_nil_iff.mp (List.isEmpty_iff.mp hempty) with h | h
    · omega
    · intro _; rw [h]; rfl
  | case3 fuel rows b hne ih =>
    intro h
    have : rows ≠ [] := fun e => hne (by simp [b, e])
    rw [List.flatten_cons, ih (by have := List.length_pos_iff.mpr this; rw [List.length_drop]; omega),
      List.take_append_drop]

theorem tableBatches_flatten {X : Type} (batch : Nat) (hb : 1 ≤ batch) (rows : List X) :
    (tableBatches batch rows).flatten = rows :=
  fetchLoop_flatten batch hb _ rows (Nat.lt_succ_self _)

end FlowRecord.Readers
