import FlowRecord.Model.Render
import FlowRecordProofs.Lemmas.Descriptor
import FlowRecordProofs.Lemmas.Assoc
/-!
Lemmas for the rendered class source (C06): instantiating the shape-only template with identifiers cannot change the
skeleton of the text (everything that is not an identifier run).
-/
namespace FlowRecord.Render
open FlowRecord.Descriptor

/-- an identifier run: a non-empty string of `[A-Za-z0-9_]` -/
def good (v : Str) : Prop := v ≠ [] ∧ v.all isIdentChar = true

theorem skel_idents (v : Str) (h : v.all isIdentChar = true) (rest : Str) :
    skel true (v ++ rest) = skel true rest := by
  induction v with
  | nil => rfl
  | cons c t ih =>
    simp only [List.all_cons, Bool.and_eq_true] at h
    simp [skel, h.1, ih h.2]

theorem skel_good (v : Str) (hv : good v) (b : Bool) (rest : Str) :
    skel b (v ++ rest) = (if b then [] else [MARK]) ++ skel true rest := by
  obtain ⟨hne, hall⟩ := hv
  cases v with
  | nil => exact absurd rfl hne
  | cons c t =>
    simp only [List.all_cons, Bool.and_eq_true] at hall
    cases b <;> simp [skel, hall.1, skel_idents t hall.2]

/-- behind a fixed text the skeleton depends only on the skeleton of what follows -/
theorem skel_append_congr {r r' : Str} (h : ∀ b, skel b r = skel b r') (s : Str) (b : Bool) :
    skel b (s ++ r) = skel b (s ++ r') := by
  induction s generalizing b with
  | nil => exact h b
  | cons c cs ih => simp only [List.cons_append, skel, ih]

theorem pyRepr_of_identChars (v : Str) (h : v.all isIdentChar = true) : pyRepr v = [39] ++ v ++ [39] := by
  unfold pyRepr
  rw [List.flatMap_congr_left (g := fun c => [c]), List.flatMap_singleton']
  intro c hc
  have hc := List.all_eq_true.mp h c hc
  simp [ne_of_class hc (k := 10) rfl, ne_of_class hc (k := 92) rfl, ne_of_class hc (k := 39) rfl]

theorem skel_inst (env env' : Nat → Str) (cls cls' : Str) (henv : ∀ i, good (env i)) (henv' : ∀ i, good (env' i))
    (hcls : good cls) (hcls' : good cls') (toks : List Tok) (b : Bool) :
    skel b (inst env cls toks) = skel b (inst env' cls' toks) := by
  induction toks generalizing b with
  | nil => rfl
  | cons t ts ih =>
    cases t with
    | lit s => exact skel_append_congr ih s b
    | name i => simp only [inst, skel_good _ (henv i), skel_good _ (henv' i), ih]
    | cls => simp only [inst, skel_good _ hcls, skel_good _ hcls', ih]
    | reprName i =>
      simp only [inst, pyRepr_of_identChars _ (henv i).2, pyRepr_of_identChars _ (henv' i).2, List.append_assoc]
      refine skel_append_congr (fun b => ?_) [39] b
      rw [skel_good _ (henv i), skel_good _ (henv' i), skel_append_congr ih [39] true]

/-- `.replace("\t", …)` character by character -/
def tabMap (c : Nat) : Str := if c = 9 then cps Gen.tplReplaceTo else [c]

theorem replaceTabs_eq (s : Str) : replaceTabs s = s.flatMap tabMap := by
  have h : cps Gen.tplReplaceFrom = [9] := by decide
  unfold replaceTabs
  rw [h]
  rfl

theorem flatMap_tabMap_of_identChars (v : Str) (h : v.all isIdentChar = true) : v.flatMap tabMap = v := by
  rw [List.flatMap_congr_left (g := fun c => [c]), List.flatMap_singleton']
  intro c hc
  simp [tabMap, ne_of_class (List.all_eq_true.mp h c hc) (k := 9) rfl]

def tabTok : Tok → Tok
  | .lit s => .lit (s.flatMap tabMap)
  | t => t

theorem replaceTabs_inst (env : Nat → Str) (cls : Str) (henv : ∀ i, good (env i)) (hcls : good cls)
    (toks : List Tok) : replaceTabs (inst env cls toks) = inst env cls (toks.map tabTok) := by
  rw [replaceTabs_eq]
  induction toks with
  | nil => rfl
  | cons t ts ih =>
    cases t with
    | lit s => simp only [inst, List.flatMap_append, ih, List.map_cons, tabTok]
    | name i =>
      simp only [inst, List.flatMap_append, ih, List.map_cons, tabTok, flatMap_tabMap_of_identChars _ (henv i).2]
    | cls => simp only [inst, List.flatMap_append, ih, List.map_cons, tabTok, flatMap_tabMap_of_identChars _ hcls.2]
    | reprName i =>
      simp only [inst, List.flatMap_append, ih, List.map_cons, tabTok, pyRepr_of_identChars _ (henv i).2]
      have : ([39] : Str).flatMap tabMap = [39] := by decide
      simp [this, flatMap_tabMap_of_identChars _ (henv i).2]

theorem identL_good (s : Str) (h : isIdentL s = true) : good s := by
  obtain ⟨y, t, rfl, -, -⟩ := (isIdentL_iff s).mp h
  exact ⟨by simp, isIdentL_chars h⟩

theorem className_good (s : Str) (h : isSlashIdents s = true) : good (className s) := by
  constructor
  · obtain ⟨seg, segs, rfl, h0, -⟩ := (isSlashIdents_iff s).mp h
    obtain ⟨y, t, rfl, -, -⟩ := (isIdentL_iff seg).mp h0
    simp [className]
  · rw [className, List.all_map]
    refine List.all_eq_true.mpr fun c hc => ?_
    have := List.all_eq_true.mp (isSlashIdents_nameChars h) c hc
    by_cases h47 : c = 47
    · subst h47; rfl
    · simpa [isNameChar, h47] using this

theorem envOf_good (d : Desc) (hv : ∀ f ∈ d.fields, isIdentL f.2 = true ∧ f.2 ∉ reservedNames) :
    ∀ i, good (envOf (slots d) i) := by
  have hmem : ∀ n ∈ slots d, good n := by
    intro n hn
    rw [slots_eq_keys, keys_allFields d fun n hn hr => by
      obtain ⟨f, hf, rfl⟩ := List.mem_map.mp hn
      exact (hv f hf).2 hr] at hn
    rcases List.mem_append.mp hn with h | h
    · obtain ⟨f, hf, rfl⟩ := List.mem_map.mp (mem_firstOcc.mp h)
      exact identL_good _ (hv f hf).1
    · exact (reservedNames_facts.2 n h).2
  intro i
  rw [envOf, List.getD_eq_getElem?_getD]
  cases hg : (slots d)[i]? with
  | none => exact ⟨by simp, by decide⟩
  | some n => exact hmem n (List.mem_of_getElem? hg)

end FlowRecord.Render
