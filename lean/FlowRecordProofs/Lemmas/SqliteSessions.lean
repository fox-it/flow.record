import FlowRecordProofs.Lemmas.Sqlite
/-! Several writer sessions on one SQLite file behave like one replay of all their writes. -/
namespace FlowRecord.Sqlite
variable {DT : Type}

theorem writesOf_append (E : Env DT) (a b : List (Op DT)) (h : Op.close ∈ a → writesOf E b = []) :
    writesOf E (a ++ b) = writesOf E a ++ writesOf E b := by
  induction a with
  | nil => rfl
  | cons op a ih =>
    have ih := ih fun hc => h (List.mem_cons_of_mem _ hc)
    cases op with
    | close => simp [writesOf, h List.mem_cons_self]
    | flush => simpa [writesOf] using ih
    | write d vals => simp [writesOf, ih]

theorem writesOf_append_close (E : Env DT) (ops : List (Op DT)) : writesOf E (ops ++ [.close]) = writesOf E ops := by
  rw [writesOf_append E ops _ fun _ => rfl]; exact List.append_nil _

theorem accepted_append (store : String → DbVal → DbVal) (a b : List (Desc × Option (List (Text × DbVal)))) :
    ∀ T : Tables, accepted store T (a ++ b) = (accepted store T a && accepted store (a.foldl (specStep store) T) b) := by
  induction a with
  | nil => intro T; simp [accepted]
  | cons w a ih => intro T; simp [accepted, ih, Bool.and_assoc]

theorem reopen_run_committed (E : Env DT) (s : St) (ops : List (Op DT))
    (hacc : accepted E.store s.committed (writesOf E ops) = true) :
    (run E (reopen s) (ops ++ [.close])).committed = (writesOf E ops).foldl (specStep E.store) s.committed := by
  rw [run_committed_of_close E (s := reopen s) rfl (by simp)]
  have := run_work E (ops := ops ++ [.close]) (s := reopen s) (cacheSound_of_seen_nil rfl rfl)
    (by rw [writesOf_append_close]; exact hacc)
  rw [this, writesOf_append_close]; rfl

theorem runSessions_committed (E : Env DT) (ss : List (List (Op DT))) : ∀ s : St,
    accepted E.store s.committed (sessionWrites E ss) = true →
    (runSessions E s ss).committed = (sessionWrites E ss).foldl (specStep E.store) s.committed := by
  induction ss with
  | nil => intro s _; rfl
  | cons ops ss ih =>
    intro s hacc
    simp only [sessionWrites, List.flatMap_cons] at hacc ⊢
    rw [accepted_append, Bool.and_eq_true] at hacc
    obtain ⟨h1, h2⟩ := hacc
    have hc := reopen_run_committed E s ops h1
    simp only [runSessions, List.foldl_append]
    rw [← hc] at h2 ⊢
    exact ih _ h2

theorem sessionWrites_of_no_close (E : Env DT) {ss : List (List (Op DT))} (h : ∀ ops ∈ ss, Op.close ∉ ops) :
    sessionWrites E ss = writesOf E ss.flatten := by
  induction ss with
  | nil => rfl
  | cons ops ss ih =>
    simp only [sessionWrites, List.flatMap_cons, List.flatten_cons]
    rw [writesOf_append E ops _ fun hc => absurd hc (h ops List.mem_cons_self)]
    congr 1
    exact ih (fun o ho => h o (List.mem_cons_of_mem _ ho))

end FlowRecord.Sqlite
