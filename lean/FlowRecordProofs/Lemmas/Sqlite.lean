import FlowRecord.Model.Sqlite
/-!
For C18. The first four parts are about tables and the plain replay of the writes, with no writer in them. The writer's
own view (`View`) steps without looking at `committed` or `batch` (`step_eq`): batch independence is "a view has no
batch field", `committed` is the view as it was at the latest commit point (`visible_from`), and the view's tables are
the plain replay of the writes (`view_work`) because the `descriptors_seen` cache is sound (`CacheSound`).
-/
namespace FlowRecord.Sqlite

/-! ### identifiers: comparison and quoting -/

theorem sameIdent_refl (a : Text) : sameIdent a a = true := by simp [sameIdent]

theorem sameIdent_congr {a b : Text} (h : sameIdent a b = true) (c : Text) : sameIdent c a = sameIdent c b := by
  simp only [sameIdent, beq_iff_eq] at h ⊢; rw [h]

theorem sameIdent_comm (a b : Text) : sameIdent a b = sameIdent b a := BEq.comm

theorem lexQuotedBody_other (c : Nat) (rest : Text) (h : c ≠ 34) :
    lexQuotedBody (c :: rest) = (lexQuotedBody rest).map (fun p => (c :: p.1, p.2)) := by
  rw [lexQuotedBody.eq_def]; simp [h]

theorem lexQuotedBody_end_nil : lexQuotedBody [34] = some ([], []) := by
  rw [lexQuotedBody.eq_def]; simp

theorem lexQuotedBody_end_cons (c2 : Nat) (rest : Text) (h : c2 ≠ 34) :
    lexQuotedBody (34 :: c2 :: rest) = some ([], c2 :: rest) := by
  rw [lexQuotedBody.eq_def]; simp [h]

theorem lexQuotedBody_name (n rest : Text) (hn : 34 ∉ n) (hrest : rest.head? ≠ some 34) :
    lexQuotedBody (n ++ 34 :: rest) = some (n, rest) := by
  induction n with
  | nil =>
    cases rest with
    | nil => exact lexQuotedBody_end_nil
    | cons c2 r => exact lexQuotedBody_end_cons c2 r fun h => hrest (h ▸ rfl)
  | cons c n ih =>
    rw [List.cons_append, lexQuotedBody_other c _ fun h => hn (h ▸ List.mem_cons_self),
      ih fun h => hn (List.mem_cons_of_mem _ h)]
    rfl

theorem lexQuotedIdent_quoteIdent (n rest : Text) (hn : 34 ∉ n) (hrest : rest.head? ≠ some 34) :
    lexQuotedIdent (quoteIdent n ++ rest) = some (n, rest) := by
  simpa [quoteIdent, lexQuotedIdent] using lexQuotedBody_name n rest hn hrest

/-! ### DDL, and the descriptors it has covered -/

theorem addCols_name (t : Table) (d : Desc) : (addCols t d).name = t.name := rfl
theorem addCols_rows (t : Table) (d : Desc) : (addCols t d).rows = t.rows := rfl

theorem colNames_addCols (t : Table) (d : Desc) :
    colNames (addCols t d) = colNames t ++ (d.fields.map (·.1)).filter (fun c => !(colNames t).contains c) := by
  simp only [colNames, addCols, List.map_append, List.map_map, List.filter_map]; rfl

theorem addCols_eq_self (t : Table) (d : Desc) (h : ∀ f ∈ d.fields, f.1 ∈ colNames t) : addCols t d = t := by
  have : d.fields.filter (fun f => !(colNames t).contains f.1) = [] :=
    List.filter_eq_nil_iff.mpr fun f hf => by simp [h f hf]
  rw [addCols, this, List.map_nil, List.append_nil]

/-- what `update_descriptor_columns` does to one table -/
abbrev alter (d : Desc) (t : Table) : Table := if sameIdent t.name d.name then addCols t d else t

abbrev fresh (d : Desc) : Table := { name := d.name, cols := d.fields.map (fun f => (f.1, colType f.2)), rows := [] }

theorem alter_name (d : Desc) (t : Table) : (alter d t).name = t.name := by unfold alter; split <;> rfl
theorem alter_rows (d : Desc) (t : Table) : (alter d t).rows = t.rows := by unfold alter; split <;> rfl

theorem colNames_fresh (d : Desc) : colNames (fresh d) = d.fields.map (·.1) := by
  simp [colNames, Function.comp_def]

theorem ddl_eq (T : Tables) (d : Desc) :
    ddl T d = T.map (alter d) ++ if T.any (fun t => sameIdent t.name d.name) then [] else [fresh d] := by
  have : alter d (fresh d) = fresh d := by
    simp only [alter, sameIdent_refl, if_true]
    exact addCols_eq_self _ _ fun f hf => by rw [colNames_fresh]; exact List.mem_map_of_mem hf
  unfold ddl updateColumns createTable
  split <;> simp [this]

theorem mem_ddl {T : Tables} {d : Desc} {t' : Table} : t' ∈ ddl T d ↔
    (∃ t ∈ T, alter d t = t') ∨ (t' = fresh d ∧ T.any (fun t => sameIdent t.name d.name) = false) := by
  rw [ddl_eq, List.mem_append, List.mem_map]
  split <;> rename_i h <;> simp [h]

theorem insertRow_map (store : String → DbVal → DbVal) (T : Tables) (n : Text) (cells : List (Text × DbVal)) :
    ∃ f : Table → Table, insertRow store T n cells = T.map f ∧ ∀ t, (f t).name = t.name ∧ (f t).cols = t.cols :=
  ⟨_, rfl, fun t => by split <;> exact ⟨rfl, rfl⟩⟩

/-- the DDL of a covered descriptor changes nothing (`ddl_eq_self`), and what is written stays covered
    (`covered_foldl`) -/
def Covered (T : Tables) (d : Desc) : Prop :=
  (∃ t ∈ T, sameIdent t.name d.name = true) ∧
  ∀ t ∈ T, sameIdent t.name d.name = true → ∀ f ∈ d.fields, f.1 ∈ colNames t

theorem covered_map {T : Tables} {d : Desc} {f : Table → Table} (h : Covered T d)
    (hk : ∀ t, (f t).name = t.name ∧ (f t).cols = t.cols) : Covered (T.map f) d := by
  obtain ⟨⟨t1, h1, hs1⟩, hall⟩ := h
  refine ⟨⟨f t1, List.mem_map_of_mem h1, by rw [(hk t1).1]; exact hs1⟩, ?_⟩
  intro t' ht' hs
  obtain ⟨t, ht, rfl⟩ := List.mem_map.mp ht'
  rw [colNames, (hk t).2]; exact hall t ht (by rw [← (hk t).1]; exact hs)

theorem colNames_alter_sub (d : Desc) (t : Table) : ∀ c ∈ colNames t, c ∈ colNames (alter d t) := by
  intro c hc
  unfold alter; split
  · rw [colNames_addCols]; exact List.mem_append_left _ hc
  · exact hc

theorem colNames_alter_fields {d : Desc} {t : Table} (h : sameIdent t.name d.name = true) :
    ∀ f ∈ d.fields, f.1 ∈ colNames (alter d t) := by
  intro f hf
  simp only [alter, h, if_true, colNames_addCols, List.mem_append, List.mem_filter]
  by_cases hc : f.1 ∈ colNames t
  · exact Or.inl hc
  · exact Or.inr ⟨List.mem_map_of_mem hf, by simpa using hc⟩

theorem covered_ddl_self (T : Tables) (d : Desc) : Covered (ddl T d) d := by
  constructor
  · by_cases h : ∃ t ∈ T, sameIdent t.name d.name = true
    · obtain ⟨t, ht, hs⟩ := h
      exact ⟨_, mem_ddl.mpr (Or.inl ⟨t, ht, rfl⟩), by rw [alter_name]; exact hs⟩
    · exact ⟨_, mem_ddl.mpr (Or.inr ⟨rfl, by simpa using h⟩), sameIdent_refl _⟩
  · intro t' ht' hs f hf
    rcases mem_ddl.mp ht' with ⟨t, _, rfl⟩ | ⟨rfl, _⟩
    · rw [alter_name] at hs; exact colNames_alter_fields hs f hf
    · rw [colNames_fresh]; exact List.mem_map_of_mem hf

theorem covered_ddl_mono {T : Tables} {d d' : Desc} (hc : Covered T d') : Covered (ddl T d) d' := by
  obtain ⟨⟨t1, h1, hs1⟩, hall⟩ := hc
  refine ⟨⟨_, mem_ddl.mpr (Or.inl ⟨t1, h1, rfl⟩), by rw [alter_name]; exact hs1⟩, fun t' ht' hs f hf => ?_⟩
  rcases mem_ddl.mp ht' with ⟨t, ht, rfl⟩ | ⟨rfl, hnone⟩
  · rw [alter_name] at hs; exact colNames_alter_sub d t _ (hall t ht hs f hf)
  · -- the new table cannot resolve to d': a table for d' existed, hence one for d
    rw [List.any_eq_false] at hnone
    exact absurd (by rw [sameIdent_congr hs]; exact hs1) (hnone t1 h1)

theorem ddl_eq_self {T : Tables} {d : Desc} (hc : Covered T d) : ddl T d = T := by
  obtain ⟨⟨t1, h1, hs1⟩, hall⟩ := hc
  rw [ddl_eq, List.any_eq_true.mpr ⟨t1, h1, hs1⟩, if_pos rfl, List.append_nil]
  refine (List.map_congr_left fun t ht => ?_).trans (List.map_id T)
  unfold alter; split
  next hs => exact addCols_eq_self t d (hall t ht hs)
  next => rfl

theorem covered_insertRow {store : String → DbVal → DbVal} {T : Tables} {n : Text} {cells : List (Text × DbVal)}
    {d : Desc} (hc : Covered T d) : Covered (insertRow store T n cells) d := by
  obtain ⟨f, hf, hk⟩ := insertRow_map store T n cells
  exact hf ▸ covered_map hc hk

theorem specStep_map (store : String → DbVal → DbVal) (T : Tables) (w : Desc × Option (List (Text × DbVal))) :
    ∃ f : Table → Table, specStep store T w = (ddl T w.1).map f ∧ ∀ t, (f t).name = t.name ∧ (f t).cols = t.cols := by
  unfold specStep
  split
  · exact insertRow_map ..
  · exact ⟨id, (List.map_id _).symm, fun _ => ⟨rfl, rfl⟩⟩

theorem covered_specStep_of_ddl {store : String → DbVal → DbVal} {T : Tables}
    {w : Desc × Option (List (Text × DbVal))} {d : Desc} (hc : Covered (ddl T w.1) d) :
    Covered (specStep store T w) d := by
  obtain ⟨f, hf, hk⟩ := specStep_map store T w
  exact hf ▸ covered_map hc hk

theorem covered_foldl (store : String → DbVal → DbVal) (ws : List (Desc × Option (List (Text × DbVal)))) (T : Tables) :
    ∀ w ∈ ws, Covered (ws.foldl (specStep store) T) w.1 := by
  intro w hw
  obtain ⟨a, b, rfl⟩ := List.append_of_mem hw
  rw [List.foldl_append, List.foldl_cons]
  exact List.foldlRecOn (motive := (Covered · w.1)) b _ (covered_specStep_of_ddl (covered_ddl_self _ _))
    fun _ h _ _ => covered_specStep_of_ddl (covered_ddl_mono h)

/-! ### rows of the replay, table by table -/

/-- `row` is what an INSERT of `cells` leaves: same columns, every value stored under some declared type -/
def StoredAs (store : String → DbVal → DbVal) (cells row : List (Text × DbVal)) : Prop :=
  ∃ tys : Text → String, row = cells.map (fun c => (c.1, store (tys c.1) c.2))

def RowsStored (store : String → DbVal → DbVal) :
    List (List (Text × DbVal)) → List (List (Text × DbVal)) → Prop
  | [], [] => True
  | c :: cs, r :: rs => StoredAs store c r ∧ RowsStored store cs rs
  | _, _ => False

theorem rowsStored_append {store : String → DbVal → DbVal} {a b a' b' : List (List (Text × DbVal))}
    (h : RowsStored store a b) (h' : RowsStored store a' b') : RowsStored store (a ++ a') (b ++ b') := by
  fun_induction RowsStored store a b with
  | case1 => exact h'
  | case2 c cs r rs ih => exact ⟨h.1, ih h.2⟩
  | case3 => exact h.elim

theorem rowsStored_length {store : String → DbVal → DbVal} :
    ∀ (a b : List (List (Text × DbVal))), RowsStored store a b → b.length = a.length := by
  intro a b h
  fun_induction RowsStored store a b with
  | case1 => rfl
  | case2 c cs r rs ih => rw [List.length_cons, List.length_cons, ih h.2]
  | case3 => exact h.elim

theorem find_name_preserving {T : Tables} {f : Table → Table} (hf : ∀ t, (f t).name = t.name) (n : Text) :
    (T.map f).find? (fun t => sameIdent t.name n) = (T.find? (fun t => sameIdent t.name n)).map f := by
  rw [List.find?_map]
  congr 2
  funext t
  simp [hf]

theorem rowsOf_ddl (T : Tables) (d : Desc) (n : Text) : rowsOf (ddl T d) n = rowsOf T n := by
  rw [ddl_eq, rowsOf, rowsOf, List.find?_append, find_name_preserving (alter_name d)]
  cases T.find? (fun t => sameIdent t.name n) with
  | some t => exact alter_rows d t
  | none =>
    -- a table made just now has no rows
    split
    · rfl
    · simp only [Option.map_none, Option.none_or, List.find?_cons, List.find?_nil]; split <;> rfl

theorem rowsOf_insertRow (store : String → DbVal → DbVal) (T : Tables) (m n : Text) (cells : List (Text × DbVal)) :
    rowsOf (insertRow store T m cells) n = rowsOf T n ++
      match T.find? (fun t => sameIdent t.name n) with
      | some t => if sameIdent m n then [cells.map (fun c => (c.1, store (declType t c.1) c.2))] else []
      | none => [] := by
  unfold rowsOf insertRow
  rw [find_name_preserving (by intro t; split <;> rfl)]
  cases hf : T.find? (fun t => sameIdent t.name n) with
  | none => rfl
  | some t =>
    have ht : sameIdent t.name n = true := by simpa using List.find?_some hf
    rw [Option.map_some, optRows, optRows, sameIdent_comm t.name m, sameIdent_congr ht m]
    split <;> simp

theorem covered_resolves {T : Tables} {d : Desc} (hc : Covered T d) {n : Text} (h : sameIdent d.name n = true) :
    ∃ t, T.find? (fun t => sameIdent t.name n) = some t := by
  obtain ⟨t, ht, hs⟩ := hc.1
  exact Option.isSome_iff_exists.mp (List.find?_isSome.mpr ⟨t, ht, by rw [← sameIdent_congr h]; exact hs⟩)

def writesFor (n : Text) (ws : List (Desc × Option (List (Text × DbVal)))) : List (List (Text × DbVal)) :=
  ws.filterMap (fun w => if sameIdent w.1.name n then w.2 else none)

theorem rowsOf_specStep (store : String → DbVal → DbVal) (T : Tables) (w : Desc × Option (List (Text × DbVal)))
    (n : Text) : ∃ extra, rowsOf (specStep store T w) n = rowsOf T n ++ extra ∧
      RowsStored store (writesFor n [w]) extra := by
  obtain ⟨d, oc⟩ := w
  cases oc with
  | none => exact ⟨[], by simp [specStep, rowsOf_ddl], by simp [writesFor, RowsStored]⟩
  | some cells =>
    refine ⟨_, by rw [specStep, rowsOf_insertRow, rowsOf_ddl], ?_⟩
    cases hs : sameIdent d.name n with
    | false => cases (ddl T d).find? (fun t => sameIdent t.name n) <;> simp [writesFor, hs, RowsStored]
    | true =>
      obtain ⟨t, ht⟩ := covered_resolves (covered_ddl_self T d) hs
      simp only [ht, writesFor, List.filterMap_cons, hs, if_true, List.filterMap_nil, RowsStored, and_true]
      exact ⟨declType t, rfl⟩

theorem rowsOf_foldl (store : String → DbVal → DbVal) (n : Text) (ws : List (Desc × Option (List (Text × DbVal))))
    (T : Tables) :
    ∃ rows, rowsOf (ws.foldl (specStep store) T) n = rowsOf T n ++ rows ∧ RowsStored store (writesFor n ws) rows := by
  induction ws generalizing T with
  | nil => exact ⟨[], by simp, by simp [writesFor, RowsStored]⟩
  | cons w ws ih =>
    obtain ⟨e1, h1, s1⟩ := rowsOf_specStep store T w n
    obtain ⟨e2, h2, s2⟩ := ih (specStep store T w)
    refine ⟨e1 ++ e2, by rw [List.foldl_cons, h2, h1, List.append_assoc], ?_⟩
    rw [show w :: ws = [w] ++ ws from rfl, writesFor, List.filterMap_append]
    exact rowsStored_append s1 s2

theorem specTables_names {store : String → DbVal → DbVal} (ws : List (Desc × Option (List (Text × DbVal)))) :
    ∀ t ∈ specTables store ws, ∃ w ∈ ws, t.name = w.1.name := by
  refine List.foldlRecOn ws _ (motive := fun T : Tables => ∀ t ∈ T, ∃ w ∈ ws, t.name = w.1.name) (by simp) ?_
  intro T ih w hw t ht
  obtain ⟨f, hf, hk⟩ := specStep_map store T w
  obtain ⟨t1, h1, rfl⟩ := List.mem_map.mp (hf ▸ ht)
  rw [(hk t1).1]
  rcases mem_ddl.mp h1 with ⟨t0, h0, rfl⟩ | ⟨rfl, _⟩
  · rw [alter_name]; exact ih t0 h0
  · exact ⟨w, hw, rfl⟩

theorem specTables_one_per_name {store : String → DbVal → DbVal} (ws : List (Desc × Option (List (Text × DbVal))))
    (hdistinct : ∀ w ∈ ws, ∀ w' ∈ ws, sameIdent w.1.name w'.1.name = true → w.1.name = w'.1.name) :
    ∀ w ∈ ws, ∃ t ∈ specTables store ws, t.name = w.1.name ∧ RowsStored store (writesFor w.1.name ws) t.rows := by
  intro w hw
  obtain ⟨t, ht⟩ := covered_resolves (covered_foldl store ws [] w hw) (sameIdent_refl _)
  have htm := List.mem_of_find?_eq_some ht
  have hts : sameIdent t.name w.1.name = true := by simpa using List.find?_some ht
  obtain ⟨rows, hr, hs⟩ := rowsOf_foldl store w.1.name ws []
  have hrows : t.rows = rows := by simpa [rowsOf, ht, optRows] using hr
  refine ⟨t, htm, ?_, hrows ▸ hs⟩
  obtain ⟨w', hw', hn⟩ := specTables_names ws t htm
  rw [hn] at hts ⊢; exact hdistinct w' hw' w hw hts

/-! ### when SQLite accepts every DDL statement -/

def CaseDistinctOn (U : List Text) : Prop := ∀ a ∈ U, ∀ b ∈ U, sameIdent a b = true → a = b

theorem noClash_of_nodup {U : List Text} (hU : CaseDistinctOn U) {l : List Text} (hnd : l.Nodup)
    (hsub : ∀ c ∈ l, c ∈ U) : hasIdentClash l = false := by
  induction l with
  | nil => rfl
  | cons a l ih =>
    simp only [List.nodup_cons] at hnd
    simp only [hasIdentClash, Bool.or_eq_false_iff]
    refine ⟨?_, ih hnd.2 (fun c hc => hsub c (List.mem_cons_of_mem _ hc))⟩
    rw [List.any_eq_false]
    intro b hb hs
    have := hU a (hsub a List.mem_cons_self) b (hsub b (List.mem_cons_of_mem _ hb)) hs
    exact hnd.1 (this ▸ hb)

def ColsGood (U : List Text) (T : Tables) : Prop := ∀ t ∈ T, (colNames t).Nodup ∧ ∀ c ∈ colNames t, c ∈ U

def DescGood (U : List Text) (d : Desc) : Prop := (d.fields.map (·.1)).Nodup ∧ ∀ f ∈ d.fields, f.1 ∈ U

theorem colsGood_ddl {U : List Text} {T : Tables} {d : Desc} (hT : ColsGood U T) (hd : DescGood U d) :
    ColsGood U (ddl T d) := by
  intro t' ht'
  rcases mem_ddl.mp ht' with ⟨t, ht, rfl⟩ | ⟨rfl, _⟩
  · obtain ⟨hn, hu⟩ := hT t ht
    unfold alter; split
    · rw [colNames_addCols]
      refine ⟨List.nodup_append.mpr ⟨hn, hd.1.sublist List.filter_sublist, ?_⟩, ?_⟩
      · intro a ha b hb e
        simpa [← e, ha] using (List.mem_filter.mp hb).2
      · intro c hc
        rcases List.mem_append.mp hc with hc | hc
        · exact hu c hc
        · obtain ⟨f, hf, rfl⟩ := List.mem_map.mp (List.mem_filter.mp hc).1
          exact hd.2 f hf
    · exact ⟨hn, hu⟩
  · rw [colNames_fresh]; exact ⟨hd.1, List.forall_mem_map.mpr hd.2⟩

theorem colsGood_specStep {U : List Text} (store : String → DbVal → DbVal) {T : Tables}
    {w : Desc × Option (List (Text × DbVal))} (hT : ColsGood U T) (hd : DescGood U w.1) :
    ColsGood U (specStep store T w) := by
  obtain ⟨f, hf, hk⟩ := specStep_map store T w
  rw [hf]
  intro t' ht'
  obtain ⟨t, ht, rfl⟩ := List.mem_map.mp ht'
  rw [colNames, (hk t).2]; exact colsGood_ddl hT hd t ht

theorem ddlOk_of_good {U : List Text} (hU : CaseDistinctOn U) {T : Tables} {d : Desc} (hT : ColsGood U T)
    (hd : DescGood U d) (hres : reservedName d.name = false) : ddlOk T d = true := by
  simp only [ddlOk, hres, Bool.not_false, Bool.true_and, List.all_eq_true, Bool.or_eq_true, Bool.not_eq_true']
  intro t ht
  obtain ⟨hnd, hsub⟩ := colsGood_ddl hT hd t ht
  exact Or.inr (noClash_of_nodup hU hnd hsub)

theorem accepted_of_caseDistinct {U : List Text} (hU : CaseDistinctOn U) (store : String → DbVal → DbVal)
    {ws : List (Desc × Option (List (Text × DbVal)))} {T : Tables} (hT : ColsGood U T) (hws : ∀ w ∈ ws, DescGood U w.1)
    (hres : ∀ w ∈ ws, reservedName w.1.name = false) : accepted store T ws = true := by
  induction ws generalizing T with
  | nil => rfl
  | cons w ws ih =>
    obtain ⟨hd, hws⟩ := List.forall_mem_cons.mp hws
    obtain ⟨hr, hres⟩ := List.forall_mem_cons.mp hres
    simp only [accepted, Bool.and_eq_true]
    exact ⟨ddlOk_of_good hU hT hd hr, ih (colsGood_specStep store hT hd) hws hres⟩

/-! ### the writer's own view -/

-- three structural facts extracted from `SqliteWriter`: a change in /repo breaks these, and with them the theorems
@[simp] theorem flag_new_descriptor_flushes : Gen.sqliteFlushOnNewDescriptor = true := rfl
@[simp] theorem flag_close_flushes : Gen.sqliteCloseFlushes = true := rfl
@[simp] theorem flag_commit_test : commitTestOk = true := beq_self_eq_true _

variable {DT : Type} (E : Env DT)

structure View where
  work : Tables
  seen : List Desc
  count : Nat
  isOpen : Bool

def St.view (s : St) : View := ⟨s.work, s.seen, s.count, s.isOpen⟩

/-- `step` without the transactions, branch for branch -/
def View.step (v : View) : Step DT → View
  | .ensure d =>
    if v.isOpen = false ∨ d ∈ v.seen then v
    else { v with work := if ddlOk v.work d then ddl v.work d else v.work, seen := d :: v.seen }
  | .insert d vals =>
    match v.isOpen, cellsOf E d vals with
    | true, some cells => { v with work := insertRow E.store v.work d.name cells, count := v.count + 1 }
    | _, _ => v
  | .flush => v
  | .close => { v with isOpen := false }

theorem step_eq (s : St) (m : Step DT) : (step E s m).1 =
    { committed := if commits E s m then (s.view.step E m).work else s.committed, work := (s.view.step E m).work,
      count := (s.view.step E m).count, batch := s.batch, seen := (s.view.step E m).seen,
      isOpen := (s.view.step E m).isOpen } := by
  obtain ⟨c, w, n, b, sn, o⟩ := s
  cases o with
  | false => cases m <;> simp [step, commits, View.step, St.view]
  | true =>
    cases m with
    | flush | close => simp [step, commits, View.step, St.view, commit]
    | ensure d =>
      by_cases hm : d ∈ sn <;> cases hk : ddlOk w d <;> simp [step, commits, View.step, St.view, commit, hm, hk]
    | insert d vals =>
      by_cases ha : vals.length = d.fields.length
      · cases hv : dbValues E.iso vals with
        | error e => simp [step, commits, View.step, St.view, cellsOf, ha, hv]
        | ok xs =>
          by_cases hb : (n + 1) % b = 0 <;> simp [step, commits, View.step, St.view, cellsOf, ha, hv, hb, commit]
      · simp [step, commits, View.step, St.view, cellsOf, ha]

theorem step_view (s : St) (m : Step DT) : (step E s m).1.view = s.view.step E m := by rw [step_eq]; rfl

theorem step_work (s : St) (m : Step DT) : (step E s m).1.work = (s.view.step E m).work := by rw [step_eq]

theorem step_committed (s : St) (m : Step DT) :
    (step E s m).1.committed = if commits E s m then (step E s m).1.work else s.committed := by rw [step_eq]

theorem View.step_closed {v : View} (m : Step DT) (h : v.isOpen = false) : v.step E m = v := by
  obtain ⟨w, sn, n, o⟩ := v
  cases h
  cases m <;> simp [View.step]

theorem step_closed {s : St} (m : Step DT) (h : s.isOpen = false) : (step E s m).1 = s := by
  have : commits E s m = false := by cases m <;> simp [commits, h]
  rw [step_eq, View.step_closed E m h, this]; rfl

theorem View.step_isOpen (v : View) (m : Step DT) (hm : m ≠ .close) : (v.step E m).isOpen = v.isOpen := by
  cases m with
  | close => exact absurd rfl hm
  | flush => rfl
  | ensure | insert => simp only [View.step]; split <;> rfl

theorem step_closed_committed {s : St} {m : Step DT} (h : s.isOpen = false → s.committed = s.work)
    (hc : (step E s m).1.isOpen = false) : (step E s m).1.committed = (step E s m).1.work := by
  cases ho : s.isOpen with
  | false => rw [step_closed E m ho]; exact h ho
  | true =>
    by_cases hm : m = .close
    · simp [step_committed, hm, commits, ho]
    · rw [step_eq, View.step_isOpen E s.view m hm] at hc; cases ho.symm.trans hc

theorem run_cons (s : St) (op : Op DT) (ops : List (Op DT)) : run E s (op :: ops) = run E (apply E s op).1 ops := rfl

theorem runSteps_cons (s : St) (m : Step DT) (ms : List (Step DT)) :
    runSteps E s (m :: ms) = runSteps E (step E s m).1 ms := rfl

theorem runSteps_append (E : Env DT) (s : St) (ms ms' : List (Step DT)) :
    runSteps E s (ms ++ ms') = runSteps E (runSteps E s ms) ms' := by
  simp [runSteps, List.foldl_append]

theorem run_eq_runSteps (ops : List (Op DT)) (s : St) : run E s ops = runSteps E s (expand ops) := by
  induction ops generalizing s with
  | nil => rfl
  | cons op ops ih => cases op <;> exact ih _

theorem runSteps_invariant (P : St → Prop) (ms : List (Step DT)) (hstep : ∀ s, ∀ m ∈ ms, P s → P (step E s m).1)
    (s : St) (h : P s) : P (runSteps E s ms) :=
  List.foldlRecOn ms _ h fun s hs m hm => hstep s m hm hs

theorem runSteps_closed (E : Env DT) (ms : List (Step DT)) : ∀ (s : St), s.isOpen = false → runSteps E s ms = s :=
  fun s h => runSteps_invariant E (· = s) ms (fun _ m _ e => by rw [e, step_closed E m h]) s rfl

theorem runSteps_view (ms : List (Step DT)) (s : St) : (runSteps E s ms).view = ms.foldl (View.step E) s.view := by
  induction ms generalizing s with
  | nil => rfl
  | cons m ms ih => rw [runSteps_cons, ih, step_view]; rfl

theorem run_view (ops : List (Op DT)) (s : St) : (run E s ops).view = (expand ops).foldl (View.step E) s.view := by
  rw [run_eq_runSteps, runSteps_view]

theorem run_append (s : St) (a b : List (Op DT)) : run E s (a ++ b) = run E (run E s a) b := by
  simp [run, List.foldl_append]

theorem run_closed_of_close (s : St) {ops : List (Op DT)} (h : Op.close ∈ ops) : (run E s ops).isOpen = false := by
  obtain ⟨pre, suf, rfl⟩ := List.append_of_mem h
  have hc : (apply E (run E s pre) .close).1.isOpen = false := by
    rw [apply, step_eq]; rfl
  rw [run_append, run_cons, run_eq_runSteps, runSteps_closed E _ _ hc, hc]

theorem run_committed_of_close {ops : List (Op DT)} {s : St} (ho : s.isOpen = true) (h : Op.close ∈ ops) :
    (run E s ops).committed = (run E s ops).work := by
  have := runSteps_invariant E (fun s => s.isOpen = false → s.committed = s.work) (expand ops)
    (fun _ _ _ => step_closed_committed E) s (by simp [ho])
  rw [← run_eq_runSteps] at this
  exact this (run_closed_of_close E s h)

/-- the `descriptors_seen` cache is right: the DDL of a descriptor in it would change nothing -/
def CacheSound (v : View) : Prop := v.isOpen = true ∧ ∀ d ∈ v.seen, Covered v.work d

theorem cacheSound_of_seen_nil {v : View} (ho : v.isOpen = true) (hs : v.seen = []) : CacheSound v :=
  ⟨ho, by simp [hs]⟩

theorem ensure_work {v : View} {d : Desc} (hs : CacheSound v) (hok : ddlOk v.work d = true) :
    CacheSound (v.step E (.ensure d)) ∧ (v.step E (.ensure d)).work = ddl v.work d := by
  obtain ⟨ho, hcov⟩ := hs
  simp only [View.step, ho, hok, if_true, Bool.true_eq_false, false_or]
  split
  next hm => rw [ddl_eq_self (hcov d hm)]; exact ⟨⟨ho, hcov⟩, rfl⟩
  next => exact ⟨⟨rfl, List.forall_mem_cons.mpr ⟨covered_ddl_self _ _, fun d' hd' => covered_ddl_mono (hcov d' hd')⟩⟩, rfl⟩

theorem write_work {v : View} {d : Desc} (vals : List (PyVal DT)) (hs : CacheSound v) (hok : ddlOk v.work d = true) :
    CacheSound ((v.step E (.ensure d)).step E (.insert d vals)) ∧
    ((v.step E (.ensure d)).step E (.insert d vals)).work = specStep E.store v.work (d, cellsOf E d vals) := by
  obtain ⟨⟨ho, hcov⟩, hw⟩ := ensure_work E hs hok
  generalize v.step E (.ensure d) = v1 at *
  cases hc : cellsOf E d vals with
  | none => simp only [View.step, ho, specStep, ← hw, hc]; exact ⟨⟨ho, hcov⟩, trivial⟩
  | some cells =>
    simp only [View.step, ho, specStep, ← hw, hc]
    exact ⟨⟨rfl, fun d' hd' => covered_insertRow (hcov d' hd')⟩, trivial⟩

theorem foldl_view_closed (ms : List (Step DT)) {v : View} (h : v.isOpen = false) : ms.foldl (View.step E) v = v :=
  List.foldlRecOn (motive := (· = v)) ms _ rfl fun _ e m _ => by rw [e, View.step_closed E m h]

theorem view_work {ops : List (Op DT)} {v : View} (hs : CacheSound v)
    (hacc : accepted E.store v.work (writesOf E ops) = true) :
    ((expand ops).foldl (View.step E) v).work = (writesOf E ops).foldl (specStep E.store) v.work := by
  induction ops generalizing v with
  | nil => rfl
  | cons op ops ih =>
    cases op with
    | close => rw [expand, List.foldl_cons, foldl_view_closed E _ rfl]; rfl
    | flush => exact ih hs hacc
    | write d vals =>
      simp only [writesOf, accepted, Bool.and_eq_true] at hacc
      obtain ⟨h2, hw⟩ := write_work E vals hs hacc.1
      rw [expand, List.foldl_cons, List.foldl_cons, writesOf, List.foldl_cons, ← hw]
      exact ih h2 (hw ▸ hacc.2)

theorem run_work {ops : List (Op DT)} {s : St} (hs : CacheSound s.view)
    (hacc : accepted E.store s.work (writesOf E ops) = true) :
    (run E s ops).work = (writesOf E ops).foldl (specStep E.store) s.work :=
  (congrArg View.work (run_view E ops s)).trans (view_work E hs hacc)

theorem quiet_append (E : Env DT) (ms ms' : List (Step DT)) : ∀ s : St,
    quiet E s (ms ++ ms') = (quiet E s ms && quiet E (runSteps E s ms) ms') := by
  induction ms with
  | nil => intro s; simp [quiet, runSteps]
  | cons m ms ih => intro s; simp [quiet, runSteps_cons, ih, Bool.and_assoc]

/-- no step of `ms` commits: another connection still sees what it saw at `s0` -/
def NoCommit (s0 : St) (ms : List (Step DT)) : Prop :=
  quiet E s0 ms = true ∧ (runSteps E s0 ms).committed = s0.committed

/-- `m`, after `p`, is the last step of `ms` that commits: another connection sees the view as `m` left it -/
def LastCommit (s0 : St) (ms : List (Step DT)) : Prop :=
  ∃ p m suf, ms = (p ++ [m]) ++ suf ∧ commits E (runSteps E s0 p) m = true ∧
    (runSteps E s0 ms).committed = (runSteps E s0 (p ++ [m])).work ∧
    quiet E (runSteps E s0 (p ++ [m])) suf = true

theorem visible_from (ms : List (Step DT)) (s0 : St) : NoCommit E s0 ms ∨ LastCommit E s0 ms := by
  induction ms generalizing s0 with
  | nil => exact .inl ⟨rfl, rfl⟩
  | cons m ms ih =>
    rcases ih (step E s0 m).1 with ⟨hquiet, hsame⟩ | ⟨p, m', suf, hms, hlast⟩
    · have hm := step_committed E s0 m
      cases hk : commits E s0 m with
      | false => exact .inl ⟨by simp [quiet, hk, hquiet], by rw [runSteps_cons, hsame, hm, hk]; rfl⟩
      | true => exact .inr ⟨[], m, ms, rfl, hk, by rw [runSteps_cons, hsame, hm, hk]; rfl, hquiet⟩
    · exact .inr ⟨m :: p, m', suf, by rw [hms]; rfl, hlast⟩

theorem step_work_grows (v : View) (m : Step DT) (n : Text) : rowsOf v.work n <+: rowsOf (v.step E m).work n := by
  cases m with
  | flush | close => exact List.prefix_rfl
  | ensure d =>
    simp only [View.step]; split
    · exact List.prefix_rfl
    · dsimp only; split
      · rw [rowsOf_ddl]; exact List.prefix_rfl
      · exact List.prefix_rfl
  | insert d vals =>
    simp only [View.step]; split
    · exact ⟨_, (rowsOf_insertRow ..).symm⟩
    · exact List.prefix_rfl

theorem committed_prefix (ms : List (Step DT)) {s : St} (h : ∀ n, rowsOf s.committed n <+: rowsOf s.work n)
    (n : Text) : rowsOf (runSteps E s ms).committed n <+: rowsOf (runSteps E s ms).work n := by
  refine runSteps_invariant E (fun s => ∀ n, rowsOf s.committed n <+: rowsOf s.work n) ms ?_ s h n
  intro s m _ h n
  rw [step_committed]
  split
  · exact List.prefix_rfl
  · exact (h n).trans (step_work E s m ▸ step_work_grows E s.view m n)

/-! ### values: storage laws and type tables -/

/-- What SQLite's storage layer is assumed to do with a bound value, by declared column type
    (type affinity, https://sqlite.org/datatype3.html). Exercised against the real library by the harness. -/
structure SqliteLaws (store : String → DbVal → DbVal) : Prop where
  null_kept : ∀ ty, store ty .null = .null
  blob_kept : ∀ ty b, store ty (.blob b) = .blob b
  int_kept : ∀ ty i, (ty = "INTEGER" ∨ ty = "BIGINT") → store ty (.integer i) = .integer i
  real_kept : ∀ bits, bits ≠ negZero → store "REAL" (.real bits) = .real bits
  /-- -0.0 comes back as +0.0 (numerically equal) -/
  negzero : store "REAL" (.real negZero) = .real 0
  text_kept : ∀ s, store "TEXT" (.text s) = .text s
  int_as_text : ∀ i, store "TEXT" (.integer i) = .text (decimal i)

/-- ISO-8601 printing/parsing of timestamps (C13's subject) and the fact that such a text is not a numeric literal,
    so a NUMERIC-affinity column (`TIMESTAMPTZ`) keeps it as text. -/
structure IsoLaws {DT : Type} (iso : DT → Text) (parse : Text → Option DT) (store : String → DbVal → DbVal) : Prop where
  parse_iso : ∀ d, parse (iso d) = some d
  iso_kept : ∀ d, store "TIMESTAMPTZ" (.text (iso d)) = .text (iso d)

/-- the rows of the extracted `FIELD_MAP` (column type per field type) and `SQLITE_FIELD_MAP` (field type per column
    type) that C18's value theorems go through -/
structure TypeTables : Prop where
  text : ∀ ft ∈ ["string", "wstring", "uri"], colType ft = "TEXT"
  int : ∀ ft ∈ ["varint", "filesize", "uint32"], colType ft = "BIGINT" ∨ colType ft = "INTEGER"
  float : colType "float" = "REAL"
  bytes : colType "bytes" = "BLOB"
  datetime : colType "datetime" = "TIMESTAMPTZ"
  boolean : colType "boolean" = "INTEGER"
  readText : readerType "TEXT" = "string"
  readBigint : readerType "BIGINT" = "varint"
  readInteger : readerType "INTEGER" = "varint"
  readReal : readerType "REAL" = "float"
  readBlob : readerType "BLOB" = "bytes"
  readTimestamptz : readerType "TIMESTAMPTZ" = "datetime"

/-- the fields as one conjunction, decided in one evaluation: unfolding the tables is what costs -/
theorem type_tables : TypeTables := by
  suffices all : _ ∧ _ ∧ _ ∧ _ ∧ _ ∧ _ ∧ _ ∧ _ ∧ _ ∧ _ ∧ _ ∧ _ from
    have ⟨a, b, c, d, e, f, g, h, i, j, k, l⟩ := all; ⟨a, b, c, d, e, f, g, h, i, j, k, l⟩
  decide +kernel

theorem readCell_store_of {DT : Type} {iso : DT → Text} {parse : Text → Option DT} {store : String → DbVal → DbVal}
    {ft : String} (ty rt : String) {v w : PyVal DT} {x y : DbVal} (hc : colType ft = ty) (hr : readerType ty = rt)
    (hv : dbValue iso v = .ok x) (hs : store ty x = y) (hread : readCell parse rt y = some w) :
    (dbValue iso v).toOption.bind (fun x => readCell parse (readerType (colType ft)) (store (colType ft) x))
      = some w := by
  subst hc hs hr; rw [hv]; exact hread

theorem affinityStore_laws : SqliteLaws affinityStore := by
  have hI : affinityOf "INTEGER" = .integer := by decide +kernel
  have hB : affinityOf "BIGINT" = .integer := by decide +kernel
  have hT : affinityOf "TEXT" = .text := by decide +kernel
  have hR : affinityOf "REAL" = .real := by decide +kernel
  exact {
    null_kept := fun _ => rfl
    blob_kept := fun _ _ => rfl
    int_kept := fun _ _ h => by rcases h with rfl | rfl <;> simp [affinityStore, hI, hB]
    real_kept := fun _ hb => by simp [affinityStore, hb]
    negzero := by simp [affinityStore, hR]
    text_kept := fun _ => rfl
    int_as_text := fun _ => by simp [affinityStore, hT] }

end FlowRecord.Sqlite
