import FlowRecordProofs.Lemmas.Msgpack
/-!
`Encodes v bs` is the msgpack format as a relation, written independently of `enc`: an integer may sit in any class wide
enough for it, a length in any length class wide enough, fixext only for its exact sizes; a conforming writer produces
some such `bs`. `reads_encodes` is M2 and M5 of DESIGN.md 7.2 in one, for EVERY conforming encoding; M1 and M5 for the
packer's own output follow through M3 (`encodes_enc`). M4 is not proved.
-/
namespace FlowRecord.Msgpack

/-- two's complement of `i` in `k` bytes -/
def twos (k : Nat) (i : Int) : Nat := if 0 ≤ i then i.toNat else ((256 ^ k : Nat) + i).toNat

/-- every encoding of an integer -/
inductive IntEnc : Int → Bytes → Prop
  | posfix (n : Nat) (h : n < 128) : IntEnc n [UInt8.ofNat n]
  | negfix (i : Int) (h1 : -32 ≤ i) (h2 : i < 0) : IntEnc i [UInt8.ofNat (256 + i).toNat]
  | u8 (n : Nat) (h : n < 256) : IntEnc n (0xcc :: beEnc 1 n)
  | u16 (n : Nat) (h : n < 65536) : IntEnc n (0xcd :: beEnc 2 n)
  | u32 (n : Nat) (h : n < 4294967296) : IntEnc n (0xce :: beEnc 4 n)
  | u64 (n : Nat) (h : n < 18446744073709551616) : IntEnc n (0xcf :: beEnc 8 n)
  | i8 (i : Int) (h1 : -128 ≤ i) (h2 : i < 128) : IntEnc i (0xd0 :: beEnc 1 (twos 1 i))
  | i16 (i : Int) (h1 : -32768 ≤ i) (h2 : i < 32768) : IntEnc i (0xd1 :: beEnc 2 (twos 2 i))
  | i32 (i : Int) (h1 : -2147483648 ≤ i) (h2 : i < 2147483648) : IntEnc i (0xd2 :: beEnc 4 (twos 4 i))
  | i64 (i : Int) (h1 : -9223372036854775808 ≤ i) (h2 : i < 9223372036854775808) : IntEnc i (0xd3 :: beEnc 8 (twos 8 i))

inductive StrHead : Nat → Bytes → Prop
  | fix (n : Nat) (h : n < 32) : StrHead n [UInt8.ofNat (0xa0 + n)]
  | s8 (n : Nat) (h : n < 256) : StrHead n (0xd9 :: beEnc 1 n)
  | s16 (n : Nat) (h : n < 65536) : StrHead n (0xda :: beEnc 2 n)
  | s32 (n : Nat) (h : n < 4294967296) : StrHead n (0xdb :: beEnc 4 n)

inductive BinHead : Nat → Bytes → Prop
  | b8 (n : Nat) (h : n < 256) : BinHead n (0xc4 :: beEnc 1 n)
  | b16 (n : Nat) (h : n < 65536) : BinHead n (0xc5 :: beEnc 2 n)
  | b32 (n : Nat) (h : n < 4294967296) : BinHead n (0xc6 :: beEnc 4 n)

inductive ArrHead : Nat → Bytes → Prop
  | fix (n : Nat) (h : n < 16) : ArrHead n [UInt8.ofNat (0x90 + n)]
  | a16 (n : Nat) (h : n < 65536) : ArrHead n (0xdc :: beEnc 2 n)
  | a32 (n : Nat) (h : n < 4294967296) : ArrHead n (0xdd :: beEnc 4 n)

inductive MapHead : Nat → Bytes → Prop
  | fix (n : Nat) (h : n < 16) : MapHead n [UInt8.ofNat (0x80 + n)]
  | m16 (n : Nat) (h : n < 65536) : MapHead n (0xde :: beEnc 2 n)
  | m32 (n : Nat) (h : n < 4294967296) : MapHead n (0xdf :: beEnc 4 n)

inductive ExtHead : Nat → Nat → Bytes → Prop
  | f1 (t : Nat) : ExtHead t 1 [0xd4, UInt8.ofNat t]
  | f2 (t : Nat) : ExtHead t 2 [0xd5, UInt8.ofNat t]
  | f4 (t : Nat) : ExtHead t 4 [0xd6, UInt8.ofNat t]
  | f8 (t : Nat) : ExtHead t 8 [0xd7, UInt8.ofNat t]
  | f16 (t : Nat) : ExtHead t 16 [0xd8, UInt8.ofNat t]
  | e8 (t n : Nat) (h : n < 256) : ExtHead t n (0xc7 :: beEnc 1 n ++ [UInt8.ofNat t])
  | e16 (t n : Nat) (h : n < 65536) : ExtHead t n (0xc8 :: beEnc 2 n ++ [UInt8.ofNat t])
  | e32 (t n : Nat) (h : n < 4294967296) : ExtHead t n (0xc9 :: beEnc 4 n ++ [UInt8.ofNat t])

mutual
  /-- the msgpack format, as a relation between values and byte strings -/
  def Encodes : MVal → Bytes → Prop
    | .nil, bs => bs = [0xc0]
    | .bool false, bs => bs = [0xc2]
    | .bool true, bs => bs = [0xc3]
    | .int i, bs => IntEnc i bs
    | .f64 b, bs => b < 18446744073709551616 ∧ bs = 0xcb :: beEnc 8 b
    | .f32 b, bs => b < 4294967296 ∧ bs = 0xca :: beEnc 4 b
    | .str p, bs => ∃ hd, StrHead p.length hd ∧ bs = hd ++ p
    | .bin p, bs => ∃ hd, BinHead p.length hd ∧ bs = hd ++ p
    | .ext t p, bs => t < 256 ∧ ∃ hd, ExtHead t p.length hd ∧ bs = hd ++ p
    | .arr xs, bs => ∃ hd body, ArrHead xs.length hd ∧ EncodesList xs body ∧ bs = hd ++ body
    | .map xs, bs => xs.length % 2 = 0 ∧ ∃ hd body, MapHead (xs.length / 2) hd ∧ EncodesList xs body ∧ bs = hd ++ body
  def EncodesList : List MVal → Bytes → Prop
    | [], bs => bs = []
    | x :: xs, bs => ∃ bx bxs, Encodes x bx ∧ EncodesList xs bxs ∧ bs = bx ++ bxs
end

theorem encodes_pair {a b : MVal} {p : Bytes} (h : Encodes (.arr [a, b]) p) :
    ∃ hd ba bb, ArrHead 2 hd ∧ Encodes a ba ∧ Encodes b bb ∧ p = hd ++ (ba ++ bb) := by
  obtain ⟨hd, _, hh, ⟨ba, _, ha, ⟨bb, _, hb, rfl, rfl⟩, rfl⟩, rfl⟩ := h
  exact ⟨hd, ba, bb, hh, ha, hb, by rw [List.append_nil]⟩

theorem signed_twos (j : Nat) (i : Int) (hlo : -((256 ^ j / 2 : Nat) : Int) ≤ i)
    (hhi : i < ((256 ^ j / 2 : Nat) : Int)) : twos j i < 256 ^ j ∧ signed j (twos j i) = i := by
  unfold twos signed
  split <;> omega

section
variable {self : Bytes → Res (MVal × Bytes)} {k : Nat}

theorem reads_signed {b : UInt8} {j : Nat} (i : Int) (hlo : -((256 ^ j / 2 : Nat) : Int) ≤ i)
    (hhi : i < ((256 ^ j / 2 : Nat) : Int))
    (hb : ∀ rest, decStep self (b :: rest) = withNum j rest fun v r => .ok (.int (signed j v), r)) :
    Reads k (decStep self) (b :: beEnc j (twos j i)) (fun r => .ok (.int i, r)) := by
  obtain ⟨hl, hs⟩ := signed_twos j i hlo hhi
  simpa only [hs] using reads_num _ hb hl

theorem IntEnc.reads {i : Int} {bs : Bytes} (h : IntEnc i bs) :
    Reads k (decStep self) bs (fun r => .ok (.int i, r)) := by
  cases h with
  | posfix n h => exact reads_byte rfl fun _ => decStep_posfix h
  | negfix i h1 h2 => exact reads_byte rfl fun _ => decStep_negfix h1 h2
  | u8 n h | u16 n h | u32 n h | u64 n h =>
    exact reads_num (fun v r => .ok (.int v, r)) (fun _ => by simp [decStep]) (by omega)
  | i8 i h1 h2 | i16 i h1 h2 | i32 i h1 h2 | i64 i h1 h2 =>
    exact reads_signed i (by simp; omega) (by simp; omega) fun _ => by simp [decStep]

theorem StrHead.reads {n : Nat} {hd : Bytes} (h : StrHead n hd) :
    Reads k (decStep self) hd (fun r => payload n r .str) := by
  cases h with
  | fix h => exact reads_byte rfl fun _ => decStep_fixstr h
  | s8 h | s16 h | s32 h => exact reads_num (fun l r => payload l r .str) (fun _ => by simp [decStep]) (by omega)

theorem BinHead.reads {n : Nat} {hd : Bytes} (h : BinHead n hd) :
    Reads k (decStep self) hd (fun r => payload n r .bin) := by
  cases h with
  | b8 h | b16 h | b32 h => exact reads_num (fun l r => payload l r .bin) (fun _ => by simp [decStep]) (by omega)

theorem ArrHead.reads {n : Nat} {hd : Bytes} (h : ArrHead n hd) : Reads k (decStep self) hd (decArr self n) := by
  cases h with
  | fix h => exact reads_byte rfl fun _ => decStep_fixarr h
  | a16 h | a32 h => exact reads_num (fun l r => decArr self l r) (fun _ => by simp [decStep]) (by omega)

theorem MapHead.reads {n : Nat} {hd : Bytes} (h : MapHead n hd) : Reads k (decStep self) hd (decMap self n) := by
  cases h with
  | fix h => exact reads_byte rfl fun _ => decStep_fixmap h
  | m16 h | m32 h => exact reads_num (fun l r => decMap self l r) (fun _ => by simp [decStep]) (by omega)

theorem ExtHead.reads {t n : Nat} {hd : Bytes} (h : ExtHead t n hd) :
    Reads k (decStep self) hd (fun r => payload n r (.ext (UInt8.ofNat t).toNat)) := by
  cases h with
  | f1 | f2 | f4 | f8 | f16 => exact (reads_byte rfl fun _ => by simp [decStep]).trans fun _ => reads_decExt
  | e8 h | e16 h | e32 h =>
    exact (reads_num (fun l r => decExt l r) (fun _ => by simp [decStep]) (by omega)).trans fun _ => reads_decExt
end

theorem IntEnc.length_pos {i : Int} {bs : Bytes} (h : IntEnc i bs) : 1 ≤ bs.length := by cases h <;> simp
theorem StrHead.length_pos {n : Nat} {hd : Bytes} (h : StrHead n hd) : 1 ≤ hd.length := by cases h <;> simp
theorem BinHead.length_pos {n : Nat} {hd : Bytes} (h : BinHead n hd) : 1 ≤ hd.length := by cases h <;> simp
theorem ArrHead.length_pos {n : Nat} {hd : Bytes} (h : ArrHead n hd) : 1 ≤ hd.length := by cases h <;> simp
theorem MapHead.length_pos {n : Nat} {hd : Bytes} (h : MapHead n hd) : 1 ≤ hd.length := by cases h <;> simp
theorem ExtHead.length_ge {t n : Nat} {hd : Bytes} (h : ExtHead t n hd) : 2 ≤ hd.length := by cases h <;> simp

mutual
/-- M2 and M5 in one. The fuel may be the nesting depth, or simply more than `k`: every nesting level costs a byte. -/
theorem reads_encodes {v : MVal} {bs : Bytes} (f k : Nat) (he : Encodes v bs) (hf : depth v ≤ f ∨ k < f) :
    Reads k (dec f) bs (fun r => .ok (v, r)) := by
  match f, hf with
  | 0, hf => have := depth_pos v; omega
  | f + 1, hf =>
    show Reads k (decStep (dec f)) bs _
    match v, he, hf with
    | .nil, he, _ | .bool false, he, _ | .bool true, he, _ =>
      cases he; exact reads_byte rfl fun _ => by simp [decStep]
    | .int i, he, _ => exact he.reads
    | .f64 b, he, _ =>
      obtain ⟨hb, rfl⟩ := he
      exact reads_num (fun v r => .ok (.f64 v, r)) (fun _ => by simp [decStep]) (by omega)
    | .f32 b, he, _ =>
      obtain ⟨hb, rfl⟩ := he
      exact reads_num (fun v r => .ok (.f32 v, r)) (fun _ => by simp [decStep]) (by omega)
    | .str p, he, _ | .bin p, he, _ =>
      obtain ⟨hd, hh, rfl⟩ := he
      exact hh.reads.trans fun _ => reads_payload p
    | .ext t p, he, _ =>
      obtain ⟨ht, hd, hh, rfl⟩ := he
      have := (hh.reads (self := dec f) (k := k)).trans fun _ => reads_payload p
      simpa only [toNat_ofNat_lt t ht] using this
    | .arr xs, he, hf =>
      obtain ⟨hd, body, hh, hl, rfl⟩ := he
      have hpos := hh.length_pos
      exact hh.reads.trans fun hk => reads_decArr (reads_encodesList f _ hl (by simp only [depth] at hf; omega))
    | .map xs, he, hf =>
      obtain ⟨hev, hd, body, hh, hl, rfl⟩ := he
      have hpos := hh.length_pos
      refine hh.reads.trans fun hk => reads_decMap ?_
      rw [show 2 * (xs.length / 2) = xs.length by omega]
      exact reads_encodesList f _ hl (by simp only [depth] at hf; omega)
theorem reads_encodesList {xs : List MVal} {bs : Bytes} (f k : Nat) (he : EncodesList xs bs)
    (hf : depthList xs ≤ f ∨ k < f) : Reads k (decN (dec f) xs.length) bs (fun r => .ok (xs, r)) := by
  match xs, he, hf with
  | [], he, _ => cases he; exact reads_decN_nil
  | x :: xs, he, hf =>
    obtain ⟨bx, bxs, h1, h2, rfl⟩ := he
    simp only [depthList] at hf
    exact reads_decN_cons (reads_encodes f k h1 (by omega)) fun _ => reads_encodesList f _ h2 (by omega)
end

/-- M2. -/
theorem dec_encodes (v : MVal) (bs : Bytes) (f : Nat) (r : Bytes) (he : Encodes v bs) (hf : depth v ≤ f) :
    dec f (bs ++ r) = .ok (v, r) :=
  Reads.whole (fun k => reads_encodes f k he (.inl hf)) r

theorem decN_encodesList (xs : List MVal) (bs : Bytes) (f : Nat) (r : Bytes) (he : EncodesList xs bs)
    (hf : depthList xs ≤ f) : decN (dec f) xs.length (bs ++ r) = .ok (xs, r) :=
  Reads.whole (fun k => reads_encodesList f k he (.inl hf)) r

/-- M5, for every conforming writer. -/
theorem dec_encodes_take {v : MVal} {bs : Bytes} (f k : Nat) (he : Encodes v bs) (hf : depth v ≤ f ∨ k < f)
    (hk : k < bs.length) : dec f (bs.take k) = .incomplete := by
  simpa using (reads_encodes f k he hf).cut hk []

-- the bound behind the fuel `decode` gives itself
mutual
theorem encodes_depth_le {v : MVal} {bs : Bytes} (he : Encodes v bs) : depth v ≤ bs.length := by
  match v, he with
  | .nil, he | .bool false, he | .bool true, he => cases he; simp [depth]
  | .int i, he => exact IntEnc.length_pos he
  | .f64 b, he | .f32 b, he => obtain ⟨_, rfl⟩ := he; simp [depth]
  | .str p, he | .bin p, he =>
    obtain ⟨hd, hh, rfl⟩ := he
    have := hh.length_pos
    simp only [depth, List.length_append]; omega
  | .ext t p, he =>
    obtain ⟨_, hd, hh, rfl⟩ := he
    have := hh.length_ge
    simp only [depth, List.length_append]; omega
  | .arr xs, ⟨hd, body, hh, hl, he⟩ | .map xs, ⟨_, hd, body, hh, hl, he⟩ =>
    have := hh.length_pos
    have := encodesList_depth_le xs body hl
    simp only [he, depth, List.length_append]; omega
theorem encodesList_depth_le (xs : List MVal) (bs : Bytes) (he : EncodesList xs bs) : depthList xs ≤ bs.length := by
  match xs, he with
  | [], _ => exact Nat.zero_le _
  | x :: xs, he =>
    obtain ⟨bx, bxs, h1, h2, rfl⟩ := he
    have := encodes_depth_le h1
    have := encodesList_depth_le xs bxs h2
    simp only [depthList, List.length_append]; omega
end

/-- M2 for `unpackb`. -/
theorem decode_encodes {v : MVal} {bs : Bytes} (he : Encodes v bs) : decode bs = .ok v := by
  have h := dec_encodes v bs (bs.length + 1) [] he (Nat.le_succ_of_le (encodes_depth_le he))
  rw [List.append_nil] at h
  rw [decode, h]

/-- M5 for `unpackb`. -/
theorem decode_encodes_take {v : MVal} {bs : Bytes} (k : Nat) (he : Encodes v bs) (hk : k < bs.length) :
    decode (bs.take k) = .incomplete := by
  unfold decode
  rw [List.length_take, Nat.min_eq_left (by omega), dec_encodes_take (k + 1) k he (.inr (by omega)) hk]

-- The packer's ladders pick the first class that is wide enough: each branch condition is the side condition of the
-- matching constructor, and the last class takes what the packer can represent at all.
theorem encInt_ok (i : Int) (h1 : -9223372036854775808 ≤ i) (h2 : i < 18446744073709551616) :
    IntEnc i (encInt i) := by
  unfold encInt
  if h0 : 0 ≤ i then
    obtain ⟨n, rfl⟩ := Int.eq_ofNat_of_zero_le h0
    simp only [Int.toNat_natCast, Int.natCast_nonneg, if_true]
    exact iteInduction (.posfix n) fun _ => iteInduction (.u8 n) fun _ => iteInduction (.u16 n) fun _ =>
      iteInduction (.u32 n) fun _ => .u64 n (by omega)
  else
    have ht : ∀ j, twos j i = ((256 ^ j : Nat) + i).toNat := fun j => if_neg h0
    rw [if_neg h0]
    exact iteInduction (.negfix i · (by omega)) fun _ => iteInduction (ht 1 ▸ .i8 i · (by omega)) fun _ =>
      iteInduction (ht 2 ▸ .i16 i · (by omega)) fun _ => iteInduction (ht 4 ▸ .i32 i · (by omega)) fun _ =>
      ht 8 ▸ .i64 i (by omega) (by omega)

theorem strHead_ok (n : Nat) (h : n < 4294967296) : StrHead n (strHead n) :=
  iteInduction (.fix n) fun _ => iteInduction (.s8 n) fun _ => iteInduction (.s16 n) fun _ => .s32 n h

theorem binHead_ok (n : Nat) (h : n < 4294967296) : BinHead n (binHead n) :=
  iteInduction (.b8 n) fun _ => iteInduction (.b16 n) fun _ => .b32 n h

theorem arrHead_ok (n : Nat) (h : n < 4294967296) : ArrHead n (arrHead n) :=
  iteInduction (.fix n) fun _ => iteInduction (.a16 n) fun _ => .a32 n h

theorem mapHead_ok (n : Nat) (h : n < 4294967296) : MapHead n (mapHead n) :=
  iteInduction (.fix n) fun _ => iteInduction (.m16 n) fun _ => .m32 n h

theorem extHead_ok (t n : Nat) (h : n < 4294967296) : ExtHead t n (extHead t n) :=
  iteInduction (· ▸ .f1 t) fun _ => iteInduction (· ▸ .f2 t) fun _ => iteInduction (· ▸ .f4 t) fun _ =>
    iteInduction (· ▸ .f8 t) fun _ => iteInduction (· ▸ .f16 t) fun _ =>
    iteInduction (.e8 t n) fun _ => iteInduction (.e16 t n) fun _ => .e32 t n h

mutual
/-- M3. -/
theorem encodes_enc (v : MVal) (hw : WF v) : Encodes v (enc v) := by
  match v, hw with
  | .nil, _ | .bool false, _ | .bool true, _ => rfl
  | .int i, hw => exact encInt_ok i hw.1 hw.2
  | .f64 b, hw | .f32 b, hw => exact ⟨hw, rfl⟩
  | .str p, hw => exact ⟨_, strHead_ok p.length hw, rfl⟩
  | .bin p, hw => exact ⟨_, binHead_ok p.length hw, rfl⟩
  | .ext t p, hw => exact ⟨hw.1, _, extHead_ok t p.length hw.2, rfl⟩
  | .arr xs, hw =>
    exact ⟨_, _, arrHead_ok xs.length hw.1, encodesList_encList xs hw.2, rfl⟩
  | .map xs, hw =>
    exact ⟨hw.1, _, _, mapHead_ok (xs.length / 2) hw.2.1, encodesList_encList xs hw.2.2, rfl⟩
theorem encodesList_encList (xs : List MVal) (hw : WFList xs) : EncodesList xs (encList xs) := by
  match xs, hw with
  | [], _ => rfl
  | x :: xs, hw =>
    exact ⟨_, _, encodes_enc x hw.1, encodesList_encList xs hw.2, rfl⟩
end

/-- M1. -/
theorem dec_enc (v : MVal) (f : Nat) (r : Bytes) (hw : WF v) (hf : depth v ≤ f) :
    dec f (enc v ++ r) = .ok (v, r) :=
  dec_encodes v (enc v) f r (encodes_enc v hw) hf

theorem decN_encList (xs : List MVal) (f : Nat) (r : Bytes) (hw : WFList xs) (hf : depthList xs ≤ f) :
    decN (dec f) xs.length (encList xs ++ r) = .ok (xs, r) :=
  decN_encodesList xs (encList xs) f r (encodesList_encList xs hw) hf

/-- M1 at the document level: `unpackb(packb(v)) = v`. -/
theorem decode_enc (v : MVal) (hw : WF v) : decode (enc v) = .ok v :=
  decode_encodes (encodes_enc v hw)

/-- M5 for the packer's output. -/
theorem dec_take (v : MVal) (f k : Nat) (hw : WF v) (hf : depth v ≤ f ∨ k < f) (hk : k < (enc v).length) :
    dec f ((enc v).take k) = .incomplete :=
  dec_encodes_take f k (encodes_enc v hw) hf hk

theorem decN_take (xs : List MVal) (f k : Nat) (hw : WFList xs) (hf : depthList xs ≤ f ∨ k < f)
    (hk : k < (encList xs).length) :
    decN (dec f) xs.length ((encList xs).take k) = .incomplete := by
  simpa using (reads_encodesList f k (encodesList_encList xs hw) hf).cut hk []

/-- M5 for `unpackb(packb(v))` truncated: "incomplete input", never a value. -/
theorem decode_take (v : MVal) (k : Nat) (hw : WF v) (hk : k < (enc v).length) :
    decode ((enc v).take k) = .incomplete :=
  decode_encodes_take k (encodes_enc v hw) hk

theorem take_cons_pos {α : Type} (a : α) (l : List α) (k : Nat) (h : 0 < k) : (a :: l).take k = a :: l.take (k - 1) :=
  List.take_cons h

end FlowRecord.Msgpack
