import FlowRecord.Model.Stream
import FlowRecord.Model.Detect
/-! The header check of `RecordStreamReader.readheader`: it reads up to 19 bytes and asks that they END with the stream
    magic. -/
namespace FlowRecord.Stream

/-- the magic ends with a byte (`\n`) that occurs nowhere else in it, so it cannot end 1 to 12 bytes before the end
    of a string that holds it there -/
theorem magic_not_suffix_shifted (X t : Bytes) (h1 : 1 ≤ t.length) (h2 : t.length < Gen.RECORDSTREAM_MAGIC.length) :
    Gen.RECORDSTREAM_MAGIC.reverse.isPrefixOf (X ++ Gen.RECORDSTREAM_MAGIC ++ t).reverse = false := by
  rw [Bool.eq_false_iff, Ne, List.isPrefixOf_iff_prefix, List.prefix_iff_getElem?]
  intro h
  have hs : t.length < Gen.RECORDSTREAM_MAGIC.reverse.length := List.length_reverse ▸ h2
  have := h t.length hs
  rw [List.reverse_append, List.reverse_append,
    List.getElem?_append_right (by simp), List.length_reverse, Nat.sub_self] at this
  have key : ∀ s (hs : s < Gen.RECORDSTREAM_MAGIC.reverse.length), 1 ≤ s → Gen.RECORDSTREAM_MAGIC.reverse[s] ≠ 10 := by
    decide
  exact key t.length hs h1 (Option.some.inj this).symm

theorem readHeader_misplaced_magic (junk tail : Bytes) (hj : junk.length < 6)
    (hl : headerLen ≤ (junk ++ Gen.RECORDSTREAM_MAGIC ++ tail).length) :
    readHeader (junk ++ Gen.RECORDSTREAM_MAGIC ++ tail) = none := by
  have hm : 6 < Gen.RECORDSTREAM_MAGIC.length := by decide
  have hh : headerLen = 6 + Gen.RECORDSTREAM_MAGIC.length := rfl
  rw [List.length_append, List.length_append, hh] at hl
  -- what `readheader` reads: the junk, the magic, and 1 to 6 bytes more
  have ht : (junk ++ Gen.RECORDSTREAM_MAGIC ++ tail).take headerLen =
      junk ++ Gen.RECORDSTREAM_MAGIC ++ tail.take (6 - junk.length) := by
    rw [List.take_append, List.take_of_length_le (by rw [List.length_append, hh]; omega), List.length_append, hh,
      Nat.add_sub_add_right]
  rw [readHeader, ht, magic_not_suffix_shifted junk _ (by rw [List.length_take]; omega)
    (by rw [List.length_take]; omega)]
  rfl

theorem readHeader_append (hdr rest : Bytes) (hl : hdr.length = headerLen)
    (hm : Gen.RECORDSTREAM_MAGIC.reverse.isPrefixOf hdr.reverse = true) : readHeader (hdr ++ rest) = some rest := by
  rw [readHeader, List.take_left' hl, List.drop_left' hl, if_pos hm]

theorem headerFrame_length : (frameBytes magicBody).length = headerLen := by decide

theorem streamHeader_eq : Detect.streamHeader = frameBytes magicBody := by decide

theorem readHeader_magic (rest : Bytes) : readHeader (frameBytes magicBody ++ rest) = some rest :=
  readHeader_append _ rest headerFrame_length (by decide)

theorem readHeader_cut : ∀ k, k < headerLen → readHeader ((frameBytes magicBody).take k) = none := by
  decide

end FlowRecord.Stream
