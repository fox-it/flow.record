import FlowRecord.Model.Detect
/-! Sniffing over ANY magic table: which row `open_stream` picks depends only on which magics the leading bytes
    carry, so the theorems about the extracted tables (C11) reduce to prefix facts about their magics. Rows are read by
    position, as the model reads them: a row `r` of a codec table (`Gen.openStreamChain`) is `(flag, n, magic, codec)` =
    `(r.1, r.2.1, r.2.2.1, r.2.2.2)`; a row of `Gen.containerChain` is `(kind, flag, n, magic, adapter)`. -/
namespace FlowRecord.Detect

theorem take_beq_iff {magic peek : Bytes} {n : Nat} (hn : magic.length = n) :
    (peek.take n == magic) = magic.isPrefixOf peek := by
  rw [Bool.eq_iff_iff, beq_iff_eq, List.isPrefixOf_iff_prefix, List.prefix_iff_eq_take, hn, eq_comm]

theorem sniffCodecIn_eq {chain : List (String × Nat × Bytes × String)} {avail : String → Bool} {peek : Bytes}
    {c : String} (hl : ∀ r ∈ chain, r.2.2.1.length = r.2.1)
    (hex : ∃ r ∈ chain, flagOk avail r.1 = true ∧ r.2.2.1.isPrefixOf peek = true)
    (hall : ∀ r ∈ chain, r.2.2.1.isPrefixOf peek = true → r.2.2.2 = c) : sniffCodecIn chain avail peek = c := by
  unfold sniffCodecIn
  split
  · next row h =>
    have hm := List.mem_of_find?_eq_some h
    have := List.find?_some h
    rw [take_beq_iff (hl row hm), Bool.and_eq_true] at this
    exact hall row hm this.2
  · next h =>
    obtain ⟨r, hr, hf, hp⟩ := hex
    have := List.find?_eq_none.mp h r hr
    rw [take_beq_iff (hl r hr), hf, hp] at this
    exact absurd rfl this

theorem sniffCodecIn_none {chain : List (String × Nat × Bytes × String)} {avail : String → Bool} {peek : Bytes}
    (hl : ∀ r ∈ chain, r.2.2.1.length = r.2.1) (hno : ∀ r ∈ chain, r.2.2.1.isPrefixOf peek = false) :
    sniffCodecIn chain avail peek = "none" := by
  unfold sniffCodecIn
  split
  · next row h =>
    have hm := List.mem_of_find?_eq_some h
    have := List.find?_some h
    rw [take_beq_iff (hl row hm), hno row hm, Bool.and_false] at this
    exact absurd this nofun
  · rfl

theorem isPrefixOf_of_common {a b t : Bytes} (h : b.isPrefixOf (a ++ t) = true) :
    b.isPrefixOf a = true ∨ a.isPrefixOf b = true := by
  simp only [List.isPrefixOf_iff_prefix] at h ⊢
  exact List.prefix_or_prefix_of_prefix h (List.prefix_append a t)

theorem isPrefixOf_append_false {a b t : Bytes} (hlen : b.length ≤ a.length) (h : b.isPrefixOf a = false) :
    b.isPrefixOf (a ++ t) = false := by
  rw [Bool.eq_false_iff, Ne, List.isPrefixOf_iff_prefix] at h ⊢
  exact fun hp => h (List.prefix_of_prefix_length_le hp (List.prefix_append a t) hlen)

theorem pathCodecIn_mem (chain : List (List String × String)) (path : List Char) :
    pathCodecIn chain path = "none" ∨ ∃ row ∈ chain, row.2 = pathCodecIn chain path := by
  unfold pathCodecIn
  split
  · next row h => exact .inr ⟨row, List.mem_of_find?_eq_some h, rfl⟩
  · exact .inl rfl

/-- `find_adapter_for_stream` over the extracted `Gen.containerChain`, as the two tests its rows make;
    `Gen.RECORDSTREAM_MAGIC_DEPTH` = 19 is the length of a header frame. -/
theorem sniffContainer_eq (avail : String → Bool) (peek : Bytes) : sniffContainer avail peek =
    bif avail "HAS_AVRO" && peek.take 3 == Gen.AVRO_MAGIC then "avro"
    else bif containsBytes Gen.RECORDSTREAM_MAGIC (peek.take Gen.RECORDSTREAM_MAGIC_DEPTH) then "stream" else "none" := by
  simp only [sniffContainer, sniffContainerIn, Gen.containerChain, List.find?, flagOk, Gen.RECORDSTREAM_MAGIC_DEPTH,
    String.reduceBEq, Bool.false_or, Bool.true_or, Bool.true_and, ↓reduceIte, Bool.false_eq_true]
  cases avail _ && _ <;> cases containsBytes _ _ <;> rfl

end FlowRecord.Detect
