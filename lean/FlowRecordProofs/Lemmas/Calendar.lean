import FlowRecordProofs.Lemmas.Zone
/-!
Hinnant's `days_from_civil` / `civil_from_days` are inverse to each other on valid dates, and the day numbers of years
1..9999 are exactly the valid dates (`ValidDate`). Both conversions are computed on the parts of a day (`Parts`); every
day number and every civil date has such parts.
-/
namespace FlowRecord.DateTime

/-- day-of-year `doy` (from 1 March) exists in year-of-era `yoe` -/
def DayInYear (yoe doy : Nat) : Prop :=
  doy < 365 ∨ (doy = 365 ∧ (yoe + 1) % 4 = 0 ∧ ((yoe + 1) % 100 ≠ 0 ∨ yoe = 399))

theorem DayInYear.le {yoe doy : Nat} (h : DayInYear yoe doy) : doy ≤ 365 := by
  unfold DayInYear at h; omega

/-- The era in mixed radix: 4 centuries of 36524 days, each 25 olympiads of 1461, each 4 years of 365; the last year
    of an olympiad has a 366th day unless it ends a century that does not end the era. In these coordinates
    `yearStart` and `yoeOf` are linear enough for `omega`; in terms of `yoe` and `doe` they are not. -/
def RadixDay (c q y doy : Nat) : Prop :=
  c < 4 ∧ q < 25 ∧ y < 4 ∧ (doy < 365 ∨ (doy = 365 ∧ y = 3 ∧ (q < 24 ∨ c = 3)))

theorem yearStart_radix (c q y : Nat) (hq : q < 25) (hy : y < 4) :
    yearStart (100 * c + 4 * q + y) = 36524 * c + 1461 * q + 365 * y := by
  unfold yearStart; omega

theorem yoeOf_radix (c q y doy : Nat) (h : RadixDay c q y doy) :
    yoeOf (36524 * c + 1461 * q + 365 * y + doy) = 100 * c + 4 * q + y := by
  obtain ⟨hc, hq, hy, hd⟩ := h
  unfold yoeOf
  -- `doe / 36524` overshoots the century on the last day of the era only, where `doe / 146096` takes it back
  have hr : 1461 * q + 365 * y + doy < 36524 ∨ (c = 3 ∧ q = 24 ∧ y = 3 ∧ doy = 365) := by omega
  rcases hr with hr | ⟨rfl, rfl, rfl, rfl⟩
  · generalize hdoe : 36524 * c + 1461 * q + 365 * y + doy = doe
    have h1 : doe / 36524 = c := by omega
    have h2 : doe / 146096 = 0 := by omega
    rw [h1, h2]
    omega
  · decide

theorem yoeOf_yearStart_add {yoe doy : Nat} (h1 : yoe < 400) (h2 : DayInYear yoe doy) :
    yoeOf (yearStart yoe + doy) = yoe := by
  have hr : RadixDay (yoe / 100) (yoe % 100 / 4) (yoe % 4) doy := by unfold DayInYear at h2; unfold RadixDay; omega
  have e : yoe = 100 * (yoe / 100) + 4 * (yoe % 100 / 4) + yoe % 4 := by omega
  have := yoeOf_radix _ _ _ _ hr
  rwa [← yearStart_radix _ _ _ hr.2.1 hr.2.2.1, ← e] at this

theorem doe_decomp (doe : Nat) (h : doe < 146097) :
    ∃ yoe doy, yoe < 400 ∧ doe = yearStart yoe + doy ∧ DayInYear yoe doy := by
  -- quotients capped at 3: the last day of the era, and of an olympiad, belongs to the unit before
  have ⟨c, q, y, doy, hr, e⟩ : ∃ c q y doy, RadixDay c q y doy ∧ doe = 36524 * c + 1461 * q + 365 * y + doy := by
    unfold RadixDay
    by_cases h4 : doe = 146096
    · exact ⟨3, 24, 3, 365, by omega, by omega⟩
    · generalize hr : doe % 36524 % 1461 = r
      by_cases h3 : r = 1460
      · exact ⟨doe / 36524, doe % 36524 / 1461, 3, 365, by omega, by omega⟩
      · exact ⟨doe / 36524, doe % 36524 / 1461, r / 365, r % 365, by omega, by omega⟩
  refine ⟨100 * c + 4 * q + y, doy, ?_, ?_, ?_⟩
  · unfold RadixDay at hr; omega
  · rw [yearStart_radix _ _ _ hr.2.1 hr.2.2.1, e]
  · unfold RadixDay at hr; unfold DayInYear; omega

theorem yearStart_le (yoe : Nat) (h : yoe < 400) : yearStart yoe ≤ 145731 := by
  unfold yearStart; omega

/-- the expression `civilFromDays` has inline, under a name (the closing `rfl` of `civil_parts` identifies the two) -/
def civMonth (mp : Nat) : Nat := if mp < 10 then mp + 3 else mp - 9

theorem civMonth_spec (mp : Nat) (h : mp < 12) :
    1 ≤ civMonth mp ∧ civMonth mp ≤ 12 ∧ (civMonth mp ≤ 2 ↔ 10 ≤ mp) ∧ (civMonth mp = 2 ↔ mp = 11) ∧
    (if civMonth mp > 2 then civMonth mp - 3 else civMonth mp + 9) = mp := by
  unfold civMonth; split <;> split <;> omega

theorem month_of_doy {mp doy : Nat} (h1 : (153 * mp + 2) / 5 ≤ doy) (h2 : doy < (153 * (mp + 1) + 2) / 5) :
    (5 * doy + 2) / 153 = mp := by
  omega

/-- the table of month lengths, as `(153 * mp + 2) / 5` encodes it; February, the last month, is not in it -/
theorem daysInMonth_mp (y : Nat) {mp : Nat} (h : mp < 11) :
    daysInMonth y (civMonth mp) = (153 * (mp + 1) + 2) / 5 - (153 * mp + 2) / 5 := by
  have : mp = 0 ∨ mp = 1 ∨ mp = 2 ∨ mp = 3 ∨ mp = 4 ∨ mp = 5 ∨ mp = 6 ∨ mp = 7 ∨ mp = 8 ∨ mp = 9 ∨ mp = 10 := by omega
  rcases this with h | h | h | h | h | h | h | h | h | h | h <;> subst h <;> rfl

/-- A day by its parts, years and months counted from 1 March: the era of 400 years, the year of the era, the day of
    that year, the month. -/
structure Parts where
  era : Nat
  yoe : Nat
  doy : Nat
  mp : Nat

namespace Parts

def number (p : Parts) : Nat := p.era * 146097 + (yearStart p.yoe + p.doy)

/-- the civil year: January and February belong to the next one -/
def year (p : Parts) : Nat := if civMonth p.mp ≤ 2 then p.yoe + p.era * 400 + 1 else p.yoe + p.era * 400

def day (p : Parts) : Nat := p.doy - (153 * p.mp + 2) / 5 + 1

/-- The ranges of `yoe` and `mp` and where the month begins: all that `days_parts` needs. `InMonth` adds where year and
    month end, which `civil_parts` needs on top; it is `day ≤ daysInMonth` (`day_in_month`). -/
def WF (p : Parts) : Prop := p.yoe < 400 ∧ p.mp < 12 ∧ (153 * p.mp + 2) / 5 ≤ p.doy

def InMonth (p : Parts) : Prop := DayInYear p.yoe p.doy ∧ p.doy < (153 * (p.mp + 1) + 2) / 5

end Parts

theorem day_in_month (p : Parts) (hw : p.WF) : p.InMonth ↔ p.day ≤ daysInMonth p.year (civMonth p.mp) := by
  obtain ⟨hyoe, hmp, hlo⟩ := hw
  obtain ⟨_, _, _, h2, _⟩ := civMonth_spec p.mp hmp
  unfold Parts.InMonth Parts.day Parts.year
  by_cases h11 : p.mp < 11
  · rw [daysInMonth_mp _ h11]
    unfold DayInYear
    omega
  · have : p.mp = 11 := by omega
    rw [this] at hlo h2 ⊢
    rw [h2.2 rfl, if_pos (Nat.le_refl 2)]
    unfold DayInYear daysInMonth
    simp only [if_true]
    split <;> omega

theorem civil_parts (p : Parts) (hw : p.WF) (hi : p.InMonth) :
    civilFromDays p.number = (p.year, civMonth p.mp, p.day) := by
  have hlt : yearStart p.yoe + p.doy < 146097 := by
    have := yearStart_le p.yoe hw.1
    have := hi.1.le
    omega
  unfold Parts.number
  generalize hdoe : yearStart p.yoe + p.doy = doe at hlt
  have e : (p.era * 146097 + doe) / 146097 = p.era ∧ (p.era * 146097 + doe) % 146097 = doe :=
    (Nat.div_mod_unique (by decide)).mpr ⟨by rw [Nat.add_comm, Nat.mul_comm], hlt⟩
  simp only [civilFromDays, e]
  rw [← hdoe, yoeOf_yearStart_add hw.1 hi.1, Nat.add_sub_cancel_left, month_of_doy hw.2.2 hi.2]
  rfl

theorem days_parts (p : Parts) (hw : p.WF) : daysFromCivil p.year (civMonth p.mp) p.day = p.number := by
  obtain ⟨hyoe, hmp, hlo⟩ := hw
  obtain ⟨_, _, _, _, hinv⟩ := civMonth_spec p.mp hmp
  have hy : (if civMonth p.mp ≤ 2 then p.year - 1 else p.year) = p.yoe + p.era * 400 := by
    unfold Parts.year; split <;> omega
  have e : (p.yoe + p.era * 400) / 400 = p.era ∧ (p.yoe + p.era * 400) % 400 = p.yoe :=
    (Nat.div_mod_unique (by decide)).mpr ⟨by rw [Nat.mul_comm], hyoe⟩
  simp only [daysFromCivil, hinv, hy, e]
  unfold Parts.day Parts.number
  omega

theorem parts_of_days (z : Nat) : ∃ p : Parts, p.WF ∧ p.InMonth ∧ p.number = z := by
  obtain ⟨yoe, doy, hyoe, hdoe, hleap⟩ := doe_decomp (z % 146097) (Nat.mod_lt _ (by decide))
  have := hleap.le
  refine ⟨⟨z / 146097, yoe, doy, (5 * doy + 2) / 153⟩, ?_, ⟨hleap, ?_⟩, ?_⟩
  · dsimp only [Parts.WF]; omega
  · dsimp only; omega
  · rw [Parts.number, ← hdoe, Nat.div_add_mod']

/-- the parts of a civil date: what `daysFromCivil` computes from it before it adds up -/
theorem parts_of_civil (y m d : Nat) (hy : 1 ≤ y) (hm1 : 1 ≤ m) (hm2 : m ≤ 12) (hd1 : 1 ≤ d) :
    ∃ p : Parts, p.WF ∧ p.year = y ∧ civMonth p.mp = m ∧ p.day = d := by
  by_cases h : m ≤ 2
  · have hm : civMonth (m + 9) = m := by unfold civMonth; rw [if_neg (by omega)]; omega
    refine ⟨⟨(y - 1) / 400, (y - 1) % 400, (153 * (m + 9) + 2) / 5 + d - 1, m + 9⟩, ?_, ?_, hm, ?_⟩
    · dsimp only [Parts.WF]; omega
    · dsimp only [Parts.year]; rw [hm, if_pos h]; omega
    · dsimp only [Parts.day]; omega
  · have hm : civMonth (m - 3) = m := by unfold civMonth; rw [if_pos (by omega)]; omega
    refine ⟨⟨y / 400, y % 400, (153 * (m - 3) + 2) / 5 + d - 1, m - 3⟩, ?_, ?_, hm, ?_⟩
    · dsimp only [Parts.WF]; omega
    · dsimp only [Parts.year]; rw [hm, if_neg h]; omega
    · dsimp only [Parts.day]; omega

theorem days_civil {z y m d : Nat} (h : civilFromDays z = (y, m, d)) : daysFromCivil y m d = z := by
  obtain ⟨p, hw, hi, rfl⟩ := parts_of_days z
  cases (civil_parts p hw hi).symm.trans h
  exact days_parts p hw

theorem civil_days (y m d : Nat) (hy : 1 ≤ y) (hm1 : 1 ≤ m) (hm2 : m ≤ 12) (hd1 : 1 ≤ d)
    (hd2 : d ≤ daysInMonth y m) : civilFromDays (daysFromCivil y m d) = (y, m, d) := by
  obtain ⟨p, hw, rfl, rfl, rfl⟩ := parts_of_civil y m d hy hm1 hm2 hd1
  rw [days_parts p hw, civil_parts p hw ((day_in_month p hw).2 hd2)]

theorem civil_valid_md {z y m d : Nat} (h : civilFromDays z = (y, m, d)) :
    1 ≤ m ∧ m ≤ 12 ∧ 1 ≤ d ∧ d ≤ daysInMonth y m := by
  obtain ⟨p, hw, hi, rfl⟩ := parts_of_days z
  obtain ⟨hm1, hm12, _⟩ := civMonth_spec p.mp hw.2.1
  cases (civil_parts p hw hi).symm.trans h
  exact ⟨hm1, hm12, Nat.le_add_left _ _, (day_in_month p hw).1 hi⟩

/-- 1 January is day 306 of the year that began in March: 0001-01-01 is day number 306, and 10000-01-01 is
    3652365 = 24 eras, 399 years and 306 days -/
theorem year_range_parts (p : Parts) (hw : p.WF) (hi : p.InMonth) :
    (1 ≤ p.year ↔ 306 ≤ p.number) ∧ (p.year ≤ 9999 ↔ p.number < 3652365) := by
  have hjan : civMonth p.mp ≤ 2 ↔ 306 ≤ p.doy := by
    obtain ⟨_, _, hm2, _⟩ := civMonth_spec p.mp hw.2.1
    have := hw.2.2
    have := hi.2
    omega
  -- of the leap rule only `doy ≤ 365` matters here, and of the month only `hjan`
  have := hw.1
  have := hi.1.le
  unfold Parts.year Parts.number yearStart
  simp only [hjan]
  split <;> omega

theorem civil_year_range {z y m d : Nat} (h : civilFromDays z = (y, m, d)) :
    (1 ≤ y ↔ 306 ≤ z) ∧ (y ≤ 9999 ↔ z < 3652365) := by
  obtain ⟨p, hw, hi, rfl⟩ := parts_of_days z
  cases (civil_parts p hw hi).symm.trans h
  exact year_range_parts p hw hi

theorem civil_valid {z y m d : Nat} (h1 : 306 ≤ z) (h2 : z < 3652365) (h : civilFromDays z = (y, m, d)) :
    ValidDate y m d :=
  ⟨(civil_year_range h).1.mpr h1, (civil_year_range h).2.mpr h2, civil_valid_md h⟩

theorem ValidDate.civil_days {y m d : Nat} (h : ValidDate y m d) : civilFromDays (daysFromCivil y m d) = (y, m, d) := by
  obtain ⟨hy, -, hm1, hm2, hd1, hd2⟩ := h
  exact DateTime.civil_days y m d hy hm1 hm2 hd1 hd2

theorem daysFromCivil_bounds {y m d : Nat} (h : ValidDate y m d) :
    306 ≤ daysFromCivil y m d ∧ daysFromCivil y m d < 3652365 :=
  have r := civil_year_range h.civil_days
  ⟨r.1.mp h.1, r.2.mp h.2.1⟩

end FlowRecord.DateTime
