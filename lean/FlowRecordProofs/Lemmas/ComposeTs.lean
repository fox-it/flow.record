import FlowRecordProofs.Lemmas.Compose
/-!
`iter_timestamped_records` (C15_ts). One round of the loop is `extend_record` of a timestamp record, built from the
ORIGINAL record, by the re-bound record (`tsStep_eq`); both are well-formed, so every slot of the result is the
timestamp record's if it has one of that name and the re-bound record's otherwise (`extend_get`). The invariant
`TsInv` says what the re-bound record still shares with the original.
-/
namespace FlowRecord.Compose
open FlowRecord.Descriptor

def notTs (f : Str × Str) : Bool := !([tsName, tsDescName].contains f.2)

structure TsInv {V : Type} (r c : Rec V) : Prop where
  wf : WF c
  rest : c.fields.filter notTs = r.fields.filter notTs
  vals : ∀ f ∈ r.fields, notTs f = true → alGet c.slots f.2 = alGet r.slots f.2

/-- what the property says about one expanded record (for the datetime field `fname`) -/
structure TsOut {V : Type} (ver : V) (nameVal : Str → V) (r o : Rec V) (fname : Str) : Prop where
  name : o.name = r.name
  fields : o.fields = tsFields ++ r.fields.filter notTs
  ts : alGet o.slots tsName = alGet r.slots fname
  desc : alGet o.slots tsDescName = some (nameVal fname)
  keeps : ∀ f ∈ r.fields, notTs f = true → alGet o.slots f.2 = alGet r.slots f.2
  source : alGet o.slots (cps "_source") = alGet r.slots (cps "_source")
  classification : alGet o.slots (cps "_classification") = alGet r.slots (cps "_classification")
  generated : alGet o.slots (cps "_generated") = alGet r.slots (cps "_generated")
  version : alGet o.slots versionName = some ver

/-- Which variable the extracted loop reads where: value and metadata from `original`, which it never assigns;
    `extend_record` gets the re-bound `record`. -/
theorem ts_loop_facts :
    tsReadsRebound = false ∧ Gen.tsLoopAssigns.contains Gen.tsExtendArg = true ∧
    tsMetaFrom "_source" = some "original" ∧ tsMetaFrom "_classification" = some "original" ∧
    tsMetaFrom "_generated" = some "original" ∧ Gen.tsLoopAssigns.contains "original" = false := by decide

/-- the timestamp record the loop builds for field `fname` (after the loop facts are applied) -/
def tsRecOf {V : Type} (dflt : Str → V) (ver : V) (nameVal : Str → V) (r : Rec V) (fname : Str) : Rec V :=
  ⟨cps "record/timestamp", tsFields,
    [(tsName, (alGet r.slots fname).getD (dflt dtType)), (tsDescName, nameVal fname),
     (cps "_source", (alGet r.slots (cps "_source")).getD (dflt [])),
     (cps "_classification", (alGet r.slots (cps "_classification")).getD (dflt [])),
     (cps "_generated", (alGet r.slots (cps "_generated")).getD (dflt [])), (cps "_version", ver)]⟩

theorem names_tsFields : tsFields.map (·.2) = [tsName, tsDescName] := by
  simp only [tsFields, List.map]

theorem notTs_iff (f : Str × Str) : notTs f = true ↔ f.2 ∉ tsFields.map (·.2) := by
  simp [notTs, names_tsFields]

theorem tsKeys_facts :
    (tsFields.map (·.2)).Nodup ∧ (∀ n ∈ tsFields.map (·.2), n ∉ reservedNames) ∧
    ∀ k ∈ [cps "_source", cps "_classification", cps "_generated"], k ∈ reservedNames ∧ k ≠ versionName := by
  simp only [tsFields, tsName, tsDescName, versionName, reservedNames, Gen.RESERVED_FIELDS, List.map]
  repeat rw [cps_ofList]
  decide

variable {V : Type} {dflt : Str → V} {ver : V} {nameVal : Str → V} {r c : Rec V} {fname : Str}

theorem tsStep_eq : tsStep dflt ver nameVal r c fname =
    extendRecord dflt ver false (some r.name) (tsRecOf dflt ver nameVal r fname) [c] := by
  obtain ⟨h1, h2, h3, h4, h5, h6⟩ := ts_loop_facts
  unfold tsStep tsRecOf
  simp only [h1, h2, h3, h4, h5, h6, Bool.false_eq_true, if_false, if_true]

theorem wf_tsRecOf : WF (tsRecOf dflt ver nameVal r fname) :=
  -- equal as written, see `versionName_mem`
  ⟨tsKeys_facts.1, tsKeys_facts.2.1, by simp [tsRecOf, tsFields, keys, reservedNames, Gen.RESERVED_FIELDS]⟩

theorem wf_tsPair (hc : WF c) : ∀ x ∈ [tsRecOf dflt ver nameVal r fname, c], WF x :=
  List.forall_mem_cons.mpr ⟨wf_tsRecOf, List.forall_mem_singleton.mpr hc⟩

theorem noReserved_tsPair (hc : WF c) : noReserved [tsRecOf dflt ver nameVal r fname, c] :=
  fun x hx => (wf_tsPair hc x hx).nores

theorem wf_tsStep (hc : WF c) : WF (tsStep dflt ver nameVal r c fname) := by
  rw [tsStep_eq]
  exact extend_wf (noReserved_tsPair hc)

theorem alGet_tsStep_version (hc : WF c) : alGet (tsStep dflt ver nameVal r c fname).slots versionName = some ver := by
  rw [tsStep_eq]
  exact alGet_extend_version (noReserved_tsPair hc)

theorem tsStep_fields (hc : WF c) : (tsStep dflt ver nameVal r c fname).fields = tsFields ++ c.fields.filter notTs := by
  rw [tsStep_eq]
  show mergeFields false [tsFields, c.fields] = _
  rw [mergeFields_two _ _ tsKeys_facts.1 hc.nodup, names_tsFields]
  rfl

theorem alGet_tsStep (hc : WF c) (k : Str) (hk : k ≠ versionName) :
    alGet (tsStep dflt ver nameVal r c fname).slots k =
      (alGet (tsRecOf dflt ver nameVal r fname).slots k).or (alGet c.slots k) := by
  rw [tsStep_eq, extend_get (wf_tsPair hc) hk]
  simp [alGet_append]

theorem alGet_tsStep_own (hc : WF c) {k : Str} {v : V} (h : (k, v) ∈ (tsRecOf dflt ver nameVal r fname).slots)
    (hk : k ≠ versionName) : alGet (tsStep dflt ver nameVal r c fname).slots k = some v := by
  rw [alGet_tsStep hc k hk, alGet_of_mem wf_tsRecOf.nodup_keys h]; rfl

theorem alGet_tsStep_rest (hc : WF c) {f : Str × Str} (hnt : notTs f = true) (hres : f.2 ∉ reservedNames) :
    alGet (tsStep dflt ver nameVal r c fname).slots f.2 = alGet c.slots f.2 := by
  rw [alGet_tsStep hc f.2 fun e => hres (e ▸ versionName_mem), alGet_eq_none_iff.mpr]
  · rfl
  · rw [wf_tsRecOf.slots, List.mem_append]
    exact not_or.mpr ⟨(notTs_iff f).mp hnt, hres⟩

variable (dflt ver nameVal) in
theorem tsStep_spec (hr : WF r) (hinv : TsInv r c) (hf : fname ∈ r.fields.map (·.2)) :
    TsOut ver nameVal r (tsStep dflt ver nameVal r c fname) fname ∧ TsInv r (tsStep dflt ver nameVal r c fname) := by
  obtain ⟨-, hnts, hmeta⟩ := tsKeys_facts
  have hfields : (tsStep dflt ver nameVal r c fname).fields = tsFields ++ r.fields.filter notTs :=
    (tsStep_fields hinv.wf).trans (congrArg _ hinv.rest)
  have keeps : ∀ f ∈ r.fields, notTs f = true →
      alGet (tsStep dflt ver nameVal r c fname).slots f.2 = alGet r.slots f.2 := fun f hfm hnt =>
    (alGet_tsStep_rest hinv.wf hnt (hr.nores f.2 (List.mem_map_of_mem hfm))).trans (hinv.vals f hfm hnt)
  have hmetaO : ∀ k ∈ [cps "_source", cps "_classification", cps "_generated"],
      (k, (alGet r.slots k).getD (dflt [])) ∈ (tsRecOf dflt ver nameVal r fname).slots →
      alGet (tsStep dflt ver nameVal r c fname).slots k = alGet r.slots k := by
    intro k hk hT
    rw [alGet_tsStep_own hinv.wf hT (hmeta k hk).2]
    exact some_getD_of_mem _ _ _ (hr.slots ▸ List.mem_append_right _ (hmeta k hk).1)
  have hnv : ∀ n ∈ tsFields.map (·.2), n ≠ versionName := fun n hn e => hnts n hn (e ▸ versionName_mem)
  -- `.head _`, `.tail _ (.head _)`, …: the entries of `tsRecOf` by position
  refine ⟨{ name := rfl, fields := hfields, ts := ?ts, keeps := keeps
            desc := alGet_tsStep_own hinv.wf (.tail _ (.head _)) (hnv _ (by simp [names_tsFields]))
            source := hmetaO _ (by simp) (.tail _ (.tail _ (.head _)))
            classification := hmetaO _ (by simp) (.tail _ (.tail _ (.tail _ (.head _))))
            generated := hmetaO _ (by simp) (.tail _ (.tail _ (.tail _ (.tail _ (.head _)))))
            version := alGet_tsStep_version hinv.wf },
    { wf := wf_tsStep hinv.wf, rest := ?rest, vals := keeps }⟩
  case ts =>
    rw [alGet_tsStep_own hinv.wf (.head _) (hnv _ (by simp [names_tsFields]))]
    exact some_getD_of_mem _ _ _ (hr.slots ▸ List.mem_append_left _ hf)
  case rest =>
    have : tsFields.filter notTs = [] :=
      List.filter_eq_nil_iff.mpr fun f hf hnt => (notTs_iff f).mp hnt (List.mem_map_of_mem hf)
    rw [hfields, List.filter_append, List.filter_filter, this]
    simp

variable (dflt ver nameVal) in
theorem tsLoop_spec (hr : WF r) {fs : List Str} (hinv : TsInv r c) (hfs : ∀ f ∈ fs, f ∈ r.fields.map (·.2)) :
    (tsLoop dflt ver nameVal r c fs).length = fs.length ∧
    ∀ (i : Nat) (o : Rec V) (f : Str), (tsLoop dflt ver nameVal r c fs)[i]? = some o → fs[i]? = some f →
      TsOut ver nameVal r o f := by
  induction fs generalizing c with
  | nil => exact ⟨rfl, fun i o f h => by simp [tsLoop] at h⟩
  | cons f fs ih =>
    obtain ⟨hout, hinv'⟩ := tsStep_spec dflt ver nameVal hr hinv (hfs f List.mem_cons_self)
    obtain ⟨hlen, hrest⟩ := ih hinv' (fun g hg => hfs g (List.mem_cons_of_mem _ hg))
    refine ⟨by simp [tsLoop, hlen], ?_⟩
    intro i o g ho hg
    cases i with
    | zero =>
      simp only [tsLoop, List.getElem?_cons_zero, Option.some.injEq] at ho hg
      subst ho; subst hg; exact hout
    | succ i =>
      simp only [tsLoop, List.getElem?_cons_succ] at ho hg
      exact hrest i o g ho hg

end FlowRecord.Compose
