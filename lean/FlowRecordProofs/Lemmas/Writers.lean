import FlowRecord.Model.Writers
/-!
Lemmas for C17, in the order of `Model/Writers.lean`. A closed writer ignores every call (`step_closed`); on an open
one `step` is `openStep`, one record update per call (`step_open`). What is proved of a single call goes through these
two, and each invariant (`Healthy`, the four `Split*`, `TmplInv`) is a fact about one call.
-/
namespace FlowRecord.Writers

variable {R : Type}

/-! ### Lifecycle -/

@[simp] theorem flag_exit : Gen.exitFlushesThenCloses = true := rfl

theorem step_closed (F : Flags) {s : Life R} (op : Op R) (h : s.isOpen = false) : (step F s op).1 = s := by
  cases op with
  | flush | exit => cases hr : F.flushAfterCloseRaises <;> simp [step, doFlush, doClose, doExit, h, hr]
  | write _ | close | bad _ => simp [step, doWrite, doClose, doBad, h]

/-- `exit` is the update that `flush` then `close` amount to: it keeps everything, whether or not `close` flushes -/
def openStep (F : Flags) (s : Life R) : Op R → Life R × Outcome
  | .write r =>
    if s.poisoned && !s.started then ({ s with started := true }, .raised)
    else
      let item : Stored R := if s.poisoned then .hollow else .full r
      ({ s with started := true, headerOnDisk := s.headerOnDisk || F.writeEmitsHeader,
                buffer := if F.writeBuffers then s.buffer ++ [item] else s.buffer,
                disk := if F.writeBuffers then s.disk else s.disk ++ [item] }, .ok)
  | .flush => ({ s with buffer := [], disk := s.disk ++ s.buffer, headerOnDisk := s.headerOnDisk || F.flushEmitsHeader,
                        poisoned := s.poisoned || (F.headerOnlyFlushPoisons && !s.started) }, .ok)
  | .close => ({ s with buffer := [], disk := if F.closeFlushes then s.disk ++ s.buffer else s.disk, isOpen := false,
                        headerOnDisk := s.headerOnDisk || (F.closeFlushes && F.closeEmitsHeader) }, .ok)
  | .exit => ({ s with buffer := [], disk := s.disk ++ s.buffer, isOpen := false,
                       headerOnDisk := s.headerOnDisk || F.flushEmitsHeader || (F.closeFlushes && F.closeEmitsHeader),
                       poisoned := s.poisoned || (F.headerOnlyFlushPoisons && !s.started) }, .ok)
  | .bad c => ({ s with buffer := if c then [] else s.buffer, disk := if c then s.disk ++ s.buffer else s.disk,
                        headerOnDisk := s.headerOnDisk || F.writeEmitsHeader }, .raised)

theorem step_open (F : Flags) {s : Life R} (op : Op R) (ho : s.isOpen = true) : step F s op = openStep F s op := by
  cases op with
  | write r => cases hb : F.writeBuffers <;> simp [step, doWrite, openStep, ho, hb]
  | flush => cases hp : (F.headerOnlyFlushPoisons && !s.started) <;> simp [step, doFlush, openStep, ho, hp, Life.drain]
  | close => cases hf : F.closeFlushes <;> simp [step, doClose, openStep, ho, hf, Life.drain]
  | exit =>
    cases hp : (F.headerOnlyFlushPoisons && !s.started) <;> cases hf : F.closeFlushes <;>
      simp [step, doExit, doFlush, doClose, openStep, ho, hp, hf, Life.drain]
  | bad c => cases c <;> simp [step, doBad, openStep, ho, Life.drain]

/-- in every state: a `flush` that raises found the writer closed already -/
theorem doExit_fst (F : Flags) (s : Life R) : (doExit F s).1 = (doClose F (doFlush F s).1).1 := by
  cases ho : s.isOpen <;> cases hr : F.flushAfterCloseRaises <;> simp [doExit, doFlush, doClose, ho, hr]

theorem isOpen_step (F : Flags) (s : Life R) (op : Op R) : (step F s op).1.isOpen = (s.isOpen && !isClosing op) := by
  cases ho : s.isOpen with
  | false => rw [step_closed F op ho, ho]; rfl
  | true =>
    rw [step_open F op ho]
    cases op with
    | write r => cases hp : (s.poisoned && !s.started) <;> simp [openStep, hp, ho, isClosing]
    | _ => simp [openStep, ho, isClosing]

theorem header_mono (F : Flags) {s : Life R} (op : Op R) (h : s.headerOnDisk = true) :
    (step F s op).1.headerOnDisk = true := by
  cases ho : s.isOpen with
  | false => rw [step_closed F op ho]; exact h
  | true =>
    rw [step_open F op ho]
    cases op with
    | write r => cases hp : (s.poisoned && !s.started) <;> simp [openStep, hp, h]
    | _ => simp only [openStep, h, Bool.true_or]

theorem header_after (F : Flags) (hw : F.writeEmitsHeader = true) (hf : F.flushEmitsHeader = true)
    {s : Life R} (ho : s.isOpen = true) (hc : s.poisoned = false) {op : Op R} (hop : op ≠ .close) :
    (step F s op).1.headerOnDisk = true := by
  rw [step_open F op ho]
  cases op with
  | close => exact absurd rfl hop
  | _ => simp [openStep, hc, hw, hf]

/-- a flush leaves this alone, so the invariants speak of it and only a closing call has to say where the records end
    up -/
def diskAndBuffer (w : Life R) : List (Stored R) := w.disk ++ w.buffer

/-- what the split writer adds to its `written` -/
def counted (F : Flags) (s : Life R) : Op R → Nat
  | .write r => if (step F s (.write r)).2 = .ok then 1 else 0
  | _ => 0

theorem counted_le_one (F : Flags) (s : Life R) (op : Op R) : counted F s op ≤ 1 := by
  cases op with
  | write r => simp only [counted]; split <;> decide
  | _ => exact Nat.zero_le 1

/-- a `close` that does not flush drops the buffer, hence `≤` -/
theorem length_diskAndBuffer_step (F : Flags) (s : Life R) (op : Op R) :
    (diskAndBuffer (step F s op).1).length ≤ (diskAndBuffer s).length + counted F s op := by
  cases ho : s.isOpen with
  | false => rw [step_closed F op ho]; exact Nat.le_add_right _ _
  | true =>
    cases op with
    | write r =>
      cases hp : (s.poisoned && !s.started) with
      | true => simp [counted, step_open F _ ho, openStep, hp, diskAndBuffer]
      | false =>
        cases hb : F.writeBuffers <;> simp +arith [counted, step_open F _ ho, openStep, hp, hb, diskAndBuffer]
    | close => cases hf : F.closeFlushes <;> simp [step_open F _ ho, openStep, diskAndBuffer, counted, hf]
    | bad c => cases c <;> simp [step_open F _ ho, openStep, diskAndBuffer]
    | flush | exit => simp [step_open F _ ho, openStep, diskAndBuffer]

/-- what the C17 theorems say the output holds; a refused write is `bad`, not `write` -/
def writesIn : List (Op R) → List R
  | [] => []
  | .write r :: ops => r :: writesIn ops
  | _ :: ops => writesIn ops

theorem writesIn_append (a b : List (Op R)) : writesIn (a ++ b) = writesIn a ++ writesIn b := by
  induction a with
  | nil => rfl
  | cons op a ih => cases op <;> simp [writesIn, ih]

theorem run_cons (F : Flags) (s : Life R) (op : Op R) (ops : List (Op R)) :
    run F s (op :: ops) = run F (step F s op).1 ops := rfl

theorem run_append (F : Flags) (s : Life R) (a b : List (Op R)) : run F s (a ++ b) = run F (run F s a) b := by
  simp [run, List.foldl_append]

theorem run_invariant (F : Flags) (P : Life R → Prop) (ops : List (Op R))
    (hstep : ∀ s, ∀ op ∈ ops, P s → P (step F s op).1) (s : Life R) (h : P s) : P (run F s ops) :=
  List.foldlRecOn ops _ h fun s hs op ho => hstep s op ho hs

theorem run_closed (F : Flags) (ops : List (Op R)) (s : Life R) (h : s.isOpen = false) : run F s ops = s :=
  run_invariant F (· = s) ops (fun _ op _ e => by rw [e, step_closed F op h]) s rfl

/-- a writer that has lost nothing (`healthy_step`) and loses nothing when closed (`healthy_closing`) -/
def Healthy (F : Flags) (s : Life R) : Prop :=
  s.isOpen = true ∧ s.poisoned = false ∧ (F.writeBuffers = false → s.buffer = [])

theorem healthy_init (F : Flags) : Healthy F (Life.init : Life R) :=
  ⟨rfl, rfl, fun _ => rfl⟩

theorem healthy_step {F : Flags} {s : Life R} {op : Op R} (h : Healthy F s) (hop : isClosing op = false)
    (hp : op = .flush → F.headerOnlyFlushPoisons = false ∨ s.started = true) :
    Healthy F (step F s op).1 ∧ diskAndBuffer (step F s op).1 = diskAndBuffer s ++ (writesIn [op]).map .full ∧
    (step F s op).1.started = (s.started || !(writesIn [op]).isEmpty) := by
  obtain ⟨ho, hc, hd⟩ := h
  rw [step_open F op ho]
  cases op with
  | close | exit => cases hop
  | write r =>
    cases hb : F.writeBuffers with
    | true => simp [Healthy, openStep, diskAndBuffer, writesIn, ho, hc, hb]
    | false => simp [Healthy, openStep, diskAndBuffer, writesIn, ho, hc, hb, hd hb]
  | flush =>
    have hnp : (F.headerOnlyFlushPoisons && !s.started) = false := by
      rcases hp rfl with h | h <;> simp [h]
    simp [Healthy, openStep, diskAndBuffer, writesIn, ho, hc, hnp]
  | bad c =>
    cases c with
    | true => simp [Healthy, openStep, diskAndBuffer, writesIn, ho, hc]
    | false => simpa [Healthy, openStep, diskAndBuffer, writesIn, ho, hc] using hd

/-- `hp` is the side condition of `C17_closed_complete` in the form the induction keeps: once a write has reached
    the writer `started` holds, and it holds from then on. -/
theorem healthy_run {F : Flags} {pre : List (Op R)} {s : Life R} (h : Healthy F s)
    (hnc : ∀ op ∈ pre, isClosing op = false)
    (hp : F.headerOnlyFlushPoisons = false ∨ s.started = true ∨ flushBeforeFirstWrite pre = false) :
    Healthy F (run F s pre) ∧ diskAndBuffer (run F s pre) = diskAndBuffer s ++ (writesIn pre).map .full := by
  induction pre generalizing s with
  | nil => simpa [run, writesIn] using h
  | cons op pre ih =>
    have hop := hnc op List.mem_cons_self
    obtain ⟨h1, e1, hs⟩ := healthy_step h hop (by rintro rfl; simpa [flushBeforeFirstWrite] using hp)
    have hp1 : F.headerOnlyFlushPoisons = false ∨ (step F s op).1.started = true ∨ flushBeforeFirstWrite pre = false := by
      rcases hp with h | h | h
      · exact .inl h
      · exact .inr (.inl (by simp [hs, h]))
      · cases op with
        | write r => exact .inr (.inl (by simp [hs, writesIn]))
        | bad c => exact .inr (.inr h)
        | flush => cases h
        | close | exit => cases hop
    obtain ⟨h2, e2⟩ := ih h1 (fun o ho => hnc o (List.mem_cons_of_mem _ ho)) hp1
    exact ⟨h2, by rw [run_cons, e2, e1, List.append_assoc, ← List.map_append, ← writesIn_append]; rfl⟩

theorem healthy_closing {F : Flags} {s : Life R} {cl : Op R} (h : Healthy F s)
    (hcl : isClosing cl = true) (hF : F.closeFlushes = true ∨ F.writeBuffers = false) :
    (step F s cl).1.disk = diskAndBuffer s ∧ (step F s cl).1.buffer = [] ∧ (step F s cl).1.isOpen = false := by
  obtain ⟨ho, _, hd⟩ := h
  rw [step_open F cl ho]
  cases cl with
  | write _ | flush | bad _ => cases hcl
  | exit => exact ⟨rfl, rfl, rfl⟩
  | close =>
    rcases hF with hF | hF
    · simp [openStep, hF, diskAndBuffer]
    · cases F.closeFlushes <;> simp [openStep, diskAndBuffer, hd hF]

theorem adapters_close_flush : ∀ F ∈ [streamFlags, plainFlags, sqliteFlags, avroFlags],
    (F.closeFlushes = true ∨ F.writeBuffers = false) ∧ F.headerOnlyFlushPoisons = false := by decide

/-! ### Decimal names -/

theorem digitChar_eq : ∀ d < 10, digitChar d = d.digitChar := by decide

theorem digitsAux_toDigits : ∀ (fuel n : Nat) (acc : List Nat), n < fuel →
    (digitsAux fuel n acc).map digitChar = Nat.toDigits 10 n ++ acc.map digitChar := by
  intro fuel
  induction fuel with
  | zero => intro n acc h; omega
  | succ fuel ih =>
    intro n acc h
    unfold digitsAux
    split
    next hn => simp [Nat.toDigits_of_lt_base hn, digitChar_eq n hn]
    next =>
      rw [ih _ _ (by omega), Nat.toDigits_of_base_le (by decide) (by omega : 10 ≤ n)]
      simp [digitChar_eq (n % 10) (by omega)]

theorem natStr_eq_toDigits (n : Nat) : natStr n = Nat.toDigits 10 n := by
  simpa [natStr, digits] using digitsAux_toDigits (n + 1) n [] (by omega)

theorem decode_rjust (n width : Nat) : Nat.ofDigitChars 10 (rjust (natStr n) width '0') 0 = n := by
  simp [rjust, natStr_eq_toDigits, Nat.ofDigitChars_append, Nat.ofDigitChars_replicate_zero,
    Nat.ofDigitChars_ten_toDigits]

theorem rjust_natStr_injective (width : Nat) {i j : Nat} (h : rjust (natStr i) width '0' = rjust (natStr j) width '0') :
    i = j := by
  rw [← decode_rjust i width, h, decode_rjust]

theorem natStr_injective {i j : Nat} (h : natStr i = natStr j) : i = j :=
  rjust_natStr_injective 0 (by simp [rjust, h])

theorem partName_injective {name : Name} {suffixLen i j : Nat}
    (h : partName name suffixLen i = partName name suffixLen j) : i = j :=
  rjust_natStr_injective suffixLen (List.append_cancel_left (List.append_cancel_right h))

/-! ### Split -/

@[simp] theorem flag_split_test : splitShapeOk = true := by
  simp [splitShapeOk, Gen.splitRotateTest, Gen.splitRotateSequence, Gen.splitNextPathShape]

theorem splitRun_cons (F : Flags) (s : Split R) (op : Op R) (ops : List (Op R)) :
    splitRun F s (op :: ops) = splitRun F (splitStep F s op).1 ops := rfl

theorem splitRun_append (F : Flags) (s : Split R) (a b : List (Op R)) :
    splitRun F s (a ++ b) = splitRun F (splitRun F s a) b := by
  simp [splitRun, List.foldl_append]

theorem splitRun_invariant (F : Flags) (P : Split R → Prop) (ops : List (Op R))
    (hstep : ∀ s, ∀ op ∈ ops, P s → P (splitStep F s op).1) (s : Split R) (h : P s) : P (splitRun F s ops) :=
  List.foldlRecOn ops _ h fun s hs op ho => hstep s op ho hs

theorem splitStep_none (F : Flags) {s : Split R} (op : Op R) (h : s.cur = none) : (splitStep F s op).1 = s := by
  cases op <;> simp [splitStep, h]

theorem splitStep_some (F : Flags) {s : Split R} {i : Nat} {w : Life R} (op : Op R) (h : s.cur = some (i, w)) :
    (splitStep F s op).1 =
      if isClosing op then { s with done := s.done ++ [(i, (step F w op).1)], cur := none }
      else if counted F w op = 1 ∧ s.limit ≤ s.written + 1 then
        { s with written := 0, done := s.done ++ [(i, (step F (step F w op).1 .exit).1)],
                 cur := some (s.fileCount, Life.init), fileCount := s.fileCount + 1 }
      else { s with written := s.written + counted F w op, cur := some (i, (step F w op).1) } := by
  cases op with
  | flush | bad c => simp [splitStep, h, isClosing, counted, step]
  | close => simp [splitStep, h, isClosing, step]
  | exit => simp [splitStep, h, isClosing, step, doExit_fst]
  | write r =>
    rcases hres : doWrite F w r with ⟨w1, o⟩
    cases o with
    | raised => simp [splitStep, h, isClosing, counted, step, hres]
    | ok =>
      simp [splitStep, h, isClosing, counted, step, hres, doExit_fst]
      split <;> rfl

theorem splitStep_closing (F : Flags) (s : Split R) {op : Op R} (hop : isClosing op = true) :
    (splitStep F s op).1.cur = none := by
  cases h : s.cur with
  | none => rw [splitStep_none F op h, h]
  | some p => simp [splitStep_some F op h, hop]

structure SplitBounded (n : Nat) (s : Split R) : Prop where
  limit : s.limit = n
  done : ∀ p ∈ s.done, (diskAndBuffer p.2).length ≤ n
  cur : ∀ p, s.cur = some p → (diskAndBuffer p.2).length ≤ s.written ∧ s.written < n

theorem splitBounded_init {n : Nat} (hn : 1 ≤ n) : SplitBounded n (Split.init n : Split R) :=
  ⟨rfl, fun _ h => absurd h List.not_mem_nil, fun _ e => Option.some.inj e ▸ ⟨Nat.le_refl 0, hn⟩⟩

theorem splitBounded_step (F : Flags) {n : Nat} {s : Split R} (op : Op R) (h : SplitBounded n s) :
    SplitBounded n (splitStep F s op).1 := by
  cases hcur : s.cur with
  | none => rwa [splitStep_none F op hcur]
  | some p =>
    obtain ⟨hlen, hlt⟩ := h.cur p hcur
    have hk := counted_le_one F p.2 op
    have h1 := length_diskAndBuffer_step F p.2 op
    have hn : (diskAndBuffer (step F p.2 op).1).length ≤ n :=
      Nat.le_trans h1 (Nat.le_trans (Nat.add_le_add hlen hk) hlt)
    have hdone : ∀ w : Life R, (diskAndBuffer w).length ≤ n →
        ∀ q ∈ s.done ++ [(p.1, w)], (diskAndBuffer q.2).length ≤ n := fun w hw =>
      List.forall_mem_append.mpr ⟨h.done, List.forall_mem_singleton.mpr hw⟩
    rw [splitStep_some F op hcur]
    split
    · exact ⟨h.limit, hdone _ hn, fun _ e => nomatch e⟩
    · split
      · exact ⟨h.limit, hdone _ (Nat.le_trans (length_diskAndBuffer_step F _ .exit) hn),
          fun _ e => by cases e; exact ⟨Nat.le_refl 0, Nat.zero_lt_of_lt hlt⟩⟩
      · have hw : s.written + counted F p.2 op < n := by have := h.limit; omega
        exact ⟨h.limit, h.done, fun _ e => by cases e; exact ⟨Nat.le_trans h1 (Nat.add_le_add_right hlen _), hw⟩⟩

structure SplitIndexed (s : Split R) : Prop where
  index : s.parts.map (·.1) = List.range s.parts.length
  next : s.fileCount = s.parts.length

theorem splitIndexed_init (limit : Nat) : SplitIndexed (Split.init limit : Split R) := ⟨rfl, rfl⟩

theorem splitIndexed_step (F : Flags) {s : Split R} (op : Op R) (h : SplitIndexed s) :
    SplitIndexed (splitStep F s op).1 := by
  cases hcur : s.cur with
  | none => rwa [splitStep_none F op hcur]
  | some p =>
    obtain ⟨h, hfc⟩ := h
    simp only [Split.parts, hcur, List.map_append, List.length_append, List.length_singleton, List.range_succ] at h hfc
    obtain ⟨hd, hi⟩ := List.append_inj' h rfl
    rw [splitStep_some F op hcur]
    split
    · exact ⟨by simpa [Split.parts, List.range_succ, hd] using hi, by simp [Split.parts, hfc]⟩
    · split <;> exact ⟨by simpa [Split.parts, hfc, List.range_succ, hd] using hi, by simp [Split.parts, hfc]⟩

structure SplitHeaders (s : Split R) : Prop where
  done : ∀ p ∈ s.done, p.2.headerOnDisk = true
  cur : ∀ p, s.cur = some p → p.2.isOpen = true

theorem splitHeaders_init (limit : Nat) : SplitHeaders (Split.init limit : Split R) :=
  ⟨fun _ h => absurd h List.not_mem_nil, fun _ e => Option.some.inj e ▸ rfl⟩

theorem splitHeaders_step (F : Flags) (hf : F.flushEmitsHeader = true) {s : Split R} {op : Op R} (hop : op ≠ .close)
    (h : SplitHeaders s) : SplitHeaders (splitStep F s op).1 := by
  cases hcur : s.cur with
  | none => rwa [splitStep_none F op hcur]
  | some p =>
    have ho := h.cur p hcur
    have hexit : ∀ w : Life R, w.isOpen = true →
        ∀ q ∈ s.done ++ [(p.1, (step F w .exit).1)], q.2.headerOnDisk = true := fun w ho =>
      List.forall_mem_append.mpr ⟨h.done, List.forall_mem_singleton.mpr (by simp [step_open F _ ho, openStep, hf])⟩
    rw [splitStep_some F op hcur]
    split
    · next hcl =>
      cases op with
      | exit => exact ⟨hexit _ ho, fun _ e => nomatch e⟩
      | close => exact absurd rfl hop
      | write _ | flush | bad _ => cases hcl
    · next hcl =>
      have ho' : (step F p.2 op).1.isOpen = true := by simp [isOpen_step, ho, hcl]
      split
      · exact ⟨hexit _ ho', fun _ e => by cases e; rfl⟩
      · exact ⟨h.done, fun _ e => by cases e; exact ho'⟩

/-- the parts hold `ws`, the retired ones on disk, and the current part is healthy -/
def SplitHealthy (F : Flags) (s : Split R) (ws : List R) : Prop :=
  ∃ p, s.cur = some p ∧ Healthy F p.2 ∧ s.done.flatMap (fun p => p.2.disk) ++ diskAndBuffer p.2 = ws.map Stored.full

theorem splitHealthy_init (F : Flags) (limit : Nat) : SplitHealthy F (Split.init limit : Split R) [] :=
  ⟨_, rfl, healthy_init F, rfl⟩

theorem splitHealthy_step {F : Flags} (hF : F.closeFlushes = true ∨ F.writeBuffers = false) {s : Split R}
    {ws : List R} {op : Op R} (h : SplitHealthy F s ws) (hop : isClosing op = false)
    (hp : op = .flush → F.headerOnlyFlushPoisons = false) :
    SplitHealthy F (splitStep F s op).1 (ws ++ writesIn [op]) := by
  obtain ⟨p, hs, hh, hws⟩ := h
  obtain ⟨h1, e1, -⟩ := healthy_step hh hop (fun e => .inl (hp e))
  rw [splitStep_some F op hs, if_neg (by simp [hop])]
  split
  · have hcl := healthy_closing (cl := .exit) h1 rfl hF
    exact ⟨_, rfl, healthy_init F, by simp [hcl.1, e1, ← hws, show diskAndBuffer (Life.init : Life R) = [] from rfl]⟩
  · exact ⟨_, rfl, h1, by simp [e1, ← hws]⟩

/-- `Op.flush ∉ pre`, where `healthy_run` asks for `flushBeforeFirstWrite pre = false` only: a rotation opens a part
    that has not started, so any later flush may be one before the first write of that part -/
theorem splitHealthy_run {F : Flags} (hF : F.closeFlushes = true ∨ F.writeBuffers = false) {pre : List (Op R)}
    (hpre : ∀ op ∈ pre, isClosing op = false) (hp : F.headerOnlyFlushPoisons = false ∨ Op.flush ∉ pre)
    {s : Split R} {ws : List R} (h : SplitHealthy F s ws) : SplitHealthy F (splitRun F s pre) (ws ++ writesIn pre) := by
  induction pre generalizing s ws with
  | nil => simpa [splitRun, writesIn] using h
  | cons op pre ih =>
    have h1 := splitHealthy_step hF h (hpre op List.mem_cons_self) (by rintro rfl; simpa using hp)
    have := ih (fun o ho => hpre o (List.mem_cons_of_mem _ ho)) (hp.imp_right fun h m => h (List.mem_cons_of_mem _ m))
      h1
    rwa [List.append_assoc, ← writesIn_append] at this

theorem split_closed_complete {F : Flags} (hF : F.closeFlushes = true ∨ F.writeBuffers = false) (limit : Nat)
    (pre : List (Op R)) {cl : Op R} (hpre : ∀ op ∈ pre, isClosing op = false) (hcl : isClosing cl = true)
    (hp : F.headerOnlyFlushPoisons = false ∨ Op.flush ∉ pre) :
    (splitRun F (Split.init limit) (pre ++ [cl])).cur = none ∧
    (splitRun F (Split.init limit) (pre ++ [cl])).parts.flatMap (fun p => p.2.disk) = (writesIn pre).map Stored.full := by
  have hrun : splitRun F (Split.init limit) (pre ++ [cl]) = (splitStep F (splitRun F (Split.init limit) pre) cl).1 :=
    splitRun_append F _ pre [cl]
  obtain ⟨p, hs, hh, hws⟩ := splitHealthy_run hF hpre hp (splitHealthy_init F limit)
  have hc := splitStep_closing F (splitRun F (Split.init limit) pre) hcl
  rw [hrun]
  refine ⟨hc, ?_⟩
  rw [Split.parts, hc, List.append_nil, splitStep_some F cl hs, if_pos hcl]
  simpa [(healthy_closing hh hcl hF).1] using hws

/-! ### Frames -/

variable {D : Type} [DecidableEq D]

theorem read_emitRecords {rest : List (Frame D R)} {out : List (D × R)}
    (hrest : ∀ known : List D, readFrames known rest = some out) (recs : List (D × R)) {known0 known : List D}
    (hsub : known0 ⊆ known) : readFrames known (emitRecords known0 recs ++ rest) = some (recs ++ out) := by
  induction recs generalizing known0 known with
  | nil => simpa [emitRecords] using hrest known
  | cons p recs ih =>
    obtain ⟨d, r⟩ := p
    by_cases hk : d ∈ known0
    · simp [emitRecords, readFrames, hk, hsub hk, ih hsub]
    · simp [emitRecords, readFrames, hk, ih (List.cons_subset_cons d hsub)]

theorem read_parts (parts : List (List (D × R))) (known : List D) :
    readFrames known (parts.flatMap emitPart) = some parts.flatten := by
  induction parts generalizing known with
  | nil => rfl
  | cons p ps ih =>
    simp only [List.flatMap_cons, emitPart, List.cons_append, readFrames, List.flatten_cons]
    exact read_emitRecords ih p (List.nil_subset known)

/-! ### Template writer -/

@[simp] theorem flag_rotate : Gen.rotateNeverOverwrites = true := rfl
@[simp] theorem flag_rotate_first : Gen.templateRotatesBeforeOpen = true := rfl

/-- the body of `PathTemplateWriter.write` in the current source is the one `tmplTs` / `tmplRunRecords` read -/
theorem template_write_is_frozen : Gen.templateWriteBody = templateWriteFrozen := rfl

theorem seqLoop_spec {taken : Name → Bool} {cand : Nat → Name} {fuel k r : Nat}
    (h : seqLoop taken cand fuel k = some r) : taken (cand r) = false := by
  fun_induction seqLoop taken cand fuel k with
  | case1 => cases h
  | case2 fuel k _ ih => exact ih h
  | case3 fuel k hk => cases h; simpa using hk

theorem seqLoop_none {taken : Name → Bool} {cand : Nat → Name} {fuel k : Nat}
    (h : seqLoop taken cand fuel k = none) : ∀ j < fuel, taken (cand (k + j)) = true := by
  fun_induction seqLoop taken cand fuel k with
  | case1 => intro j hj; omega
  | case2 fuel k hk ih =>
    intro j hj
    cases j with
    | zero => exact hk
    | succ j => simpa [Nat.add_assoc, Nat.add_comm 1 j] using ih h j (by omega)
  | case3 => cases h

theorem rotCandidate_injective {path stamp : Name} {i j : Nat}
    (h : rotCandidate path stamp i = rotCandidate path stamp j) : i = j := by
  simp only [rotCandidate] at h
  -- after the common `fname.stamp` the names go on with `.` (candidate 0) or `-<n>` (candidate n > 0)
  cases i <;> cases j <;> simp [List.append_assoc] at h
  · rfl
  · exact natStr_injective h

def names (fs : FS R) : List Name := fs.map (·.name)

theorem has_iff (fs : FS R) (n : Name) : fs.has n = true ↔ n ∈ names fs := by
  simp only [FS.has, names, List.any_eq_true, List.mem_map, beq_iff_eq]

/-- of `fs.length + 1` distinct candidates not all are taken (pigeonhole) -/
theorem seqLoop_free (fs : FS R) (path stamp : Name) :
    ∃ k, seqLoop fs.has (rotCandidate path stamp) (fs.length + 1) 0 = some k ∧ rotCandidate path stamp k ∉ names fs := by
  cases h : seqLoop fs.has (rotCandidate path stamp) (fs.length + 1) 0 with
  | some k =>
    have := seqLoop_spec h
    exact ⟨k, rfl, fun hm => by simp [(has_iff fs _).mpr hm] at this⟩
  | none =>
    have hnd : ((List.range (fs.length + 1)).map (rotCandidate path stamp)).Nodup :=
      List.pairwise_map.mpr (List.pairwise_lt_range.imp fun hab e =>
        Nat.ne_of_lt hab (rotCandidate_injective e))
    have := hnd.length_le_of_subset (l₂ := names fs) (by
      intro x hx
      obtain ⟨j, hj, rfl⟩ := List.mem_map.mp hx
      exact (has_iff fs _).mp (by simpa using seqLoop_none h j (List.mem_range.mp hj)))
    simp only [names, List.length_map, List.length_range] at this
    omega

/-- what rotation never touches -/
def tagged (fs : FS R) : List (Option Name × List R) := fs.map (fun f => (f.origin, f.content))

def renameTo (path dst : Name) (f : File R) : File R := if f.name == path then { f with name := dst } else f

theorem rotateExisting_eq (fs : FS R) (path stamp : Name) :
    ∃ dst, dst ∉ names fs ∧ rotateExisting fs path stamp = some (fs.map (renameTo path dst)) := by
  obtain ⟨k, hk, hfree⟩ := seqLoop_free fs path stamp
  refine ⟨_, hfree, ?_⟩
  cases hp : fs.has path with
  | false =>
    have : fs.map (renameTo path (rotCandidate path stamp k)) = fs := by
      rw [List.map_congr_left (g := id) fun f hf => ?_, List.map_id]
      have : f.name ≠ path := fun e => by simp [(has_iff fs path).mpr (List.mem_map.mpr ⟨f, hf, e⟩)] at hp
      simp [renameTo, this]
    simp [rotateExisting, rotateExistingWith, hp, this]
  | true =>
    have : fs.filter (fun f => f.name != rotCandidate path stamp k || f.name == path) = fs :=
      List.filter_eq_self.mpr fun f hf => by
        have : f.name ≠ rotCandidate path stamp k := fun e => hfree (List.mem_map.mpr ⟨f, hf, e⟩)
        simp [this]
    simp [rotateExisting, rotateExistingWith, hp, hk, this, renameTo]

theorem tagged_rename (fs : FS R) (path dst : Name) : tagged (fs.map (renameTo path dst)) = tagged fs := by
  simp only [tagged, List.map_map]
  exact List.map_congr_left fun f _ => by simp only [Function.comp, renameTo]; split <;> rfl

theorem names_rename (fs : FS R) (path dst : Name) :
    names (fs.map (renameTo path dst)) = (names fs).map (fun n => if n = path then dst else n) := by
  simp only [names, List.map_map]
  exact List.map_congr_left fun f _ => by by_cases h : f.name = path <;> simp [renameTo, h]

theorem nodup_map_rename {α : Type} [DecidableEq α] (path : α) {dst : α} {l : List α} (hnd : l.Nodup)
    (hdst : dst ∉ l) :
    (l.map (fun n => if n = path then dst else n)).Nodup ∧ path ∉ l.map (fun n => if n = path then dst else n) := by
  constructor
  · refine List.pairwise_map.mpr (hnd.imp_of_mem fun {a b} ha hb hab e => ?_)
    split at e <;> split at e
    next h1 h2 => exact hab (h1.trans h2.symm)
    next => exact hdst (e ▸ hb)
    next => exact hdst (e ▸ ha)
    next => exact hab e
  · intro hm
    obtain ⟨n, hn, e⟩ := List.mem_map.mp hm
    split at e
    next h1 => exact hdst (e ▸ h1 ▸ hn)
    next h1 => exact h1 e

theorem rotate_spec {fs : FS R} (path stamp : Name) (hnd : (names fs).Nodup) :
    ∃ fs', rotateExisting fs path stamp = some fs' ∧ tagged fs' = tagged fs ∧ (names fs').Nodup ∧
      path ∉ names fs' := by
  obtain ⟨dst, hdst, h⟩ := rotateExisting_eq fs path stamp
  refine ⟨_, h, tagged_rename fs path dst, ?_⟩
  rw [names_rename]
  exact nodup_map_rename path hnd hdst

/-- contents of the files that were there before the writer started (`origin = none`) -/
def preOf (t : List (Option Name × List R)) : List (List R) := (t.filter (fun x => x.1.isNone)).map (·.2)

/-- the records in the files the writer created, each with the template path its file was created for -/
def recsOf (t : List (Option Name × List R)) : List (Name × R) :=
  t.flatMap (fun x => match x.1 with | some p => x.2.map (fun r => (p, r)) | none => [])

/-- What makes it go through is `current`: the current path's file is the LAST directory entry, so a write to the
    current path and a write that rotates and creates a file both end by appending to the last file
    (`tmplInv_append`). -/
structure TmplInv (s : Tmpl R) (pre : List (List R)) (ws : List (Name × R)) : Prop where
  nodup : (names s.fs).Nodup
  pre_kept : preOf (tagged s.fs) = pre
  recs : recsOf (tagged s.fs) = ws
  current : ∀ p, s.currentPath = some p → ∃ ini last, s.fs = ini ++ [last] ∧ last.name = p ∧ last.origin = some p

theorem tmplInv_init {fs0 : FS R} (hnd : (names fs0).Nodup) (hpre : ∀ f ∈ fs0, f.origin = none) :
    TmplInv { currentPath := none, fs := fs0 } (fs0.map (·.content)) [] := by
  refine ⟨hnd, ?_, ?_, by intro p hp; cases hp⟩
  · have : (tagged fs0).filter (fun x => x.1.isNone) = tagged fs0 :=
      List.filter_eq_self.mpr (by simpa [tagged] using fun f hf => by simp [hpre f hf])
    rw [preOf, this]; simp [tagged]
  · simpa [recsOf, tagged, List.flatMap_eq_nil_iff] using fun f hf => by simp [hpre f hf]

def appendTo (path : Name) (r : R) (f : File R) : File R :=
  if f.name == path then { f with content := f.content ++ [r] } else f

theorem tmplWrite_same {s : Tmpl R} {path : Name} (stamp : Name) (r : R) (h : s.currentPath = some path) :
    tmplWrite s path stamp r = some ⟨some path, s.fs.map (appendTo path r)⟩ := by
  simp [tmplWrite, h, appendTo]

theorem tmplWrite_other {s : Tmpl R} {path : Name} (stamp : Name) (r : R) (h : s.currentPath ≠ some path) :
    tmplWrite s path stamp r = (rotateExisting s.fs path stamp).map fun fs =>
      Tmpl.mk (some path) ((fs ++ [⟨path, some path, []⟩]).map (appendTo path r)) := by
  have e : (s.currentPath == some path) = false := by simpa using h
  simp only [tmplWrite, e, flag_rotate_first, Bool.false_eq_true, ↓reduceIte, Option.map_map]; rfl

theorem tmplInv_append {ini : FS R} {last : File R} (r : R) (hnd : (names (ini ++ [last])).Nodup)
    (ho : last.origin = some last.name) :
    TmplInv ⟨some last.name, (ini ++ [last]).map (appendTo last.name r)⟩
      (preOf (tagged (ini ++ [last]))) (recsOf (tagged (ini ++ [last])) ++ [(last.name, r)]) := by
  have hmap : (ini ++ [last]).map (appendTo last.name r) = ini ++ [{ last with content := last.content ++ [r] }] := by
    have hini : ∀ f ∈ ini, f.name ≠ last.name := fun f hf =>
      (List.nodup_append.mp (by simpa [names] using hnd)).2.2 f.name (List.mem_map_of_mem hf) last.name (by simp)
    rw [List.map_append, List.map_congr_left (g := id) fun f hf => by simp [appendTo, hini f hf], List.map_id]
    simp [appendTo]
  rw [hmap]
  exact ⟨by simpa [names] using hnd, by simp [preOf, tagged, List.filter_append, ho], by simp [recsOf, tagged, ho],
    fun p hp => ⟨ini, _, rfl, Option.some.inj hp, by simpa [ho] using hp⟩⟩

theorem tmplWrite_inv {s : Tmpl R} {pre : List (List R)} {ws : List (Name × R)} (path stamp : Name) (r : R)
    (h : TmplInv s pre ws) : ∃ s', tmplWrite s path stamp r = some s' ∧ TmplInv s' pre (ws ++ [(path, r)]) := by
  obtain ⟨hnd, rfl, rfl, hcur⟩ := h
  by_cases hsame : s.currentPath = some path
  · obtain ⟨ini, last, hfs, rfl, hlo⟩ := hcur path hsame
    rw [tmplWrite_same stamp r hsame, hfs]
    exact ⟨_, rfl, tmplInv_append r (hfs ▸ hnd) hlo⟩
  · obtain ⟨fs1, hrot, htag, hnd1, hno⟩ := rotate_spec path stamp hnd
    rw [tmplWrite_other stamp r hsame, hrot]
    have hnd' : (names (fs1 ++ [⟨path, some path, []⟩])).Nodup := by
      simpa [names, List.nodup_append] using ⟨hnd1, by simpa [names] using hno⟩
    have htag' : tagged (fs1 ++ [⟨path, some path, []⟩]) = tagged s.fs ++ [(some path, [])] := by
      rw [← htag]; simp [tagged]
    have := tmplInv_append r hnd' rfl
    rw [htag'] at this
    exact ⟨_, rfl, by simpa [preOf, recsOf, List.filter_append] using this⟩

theorem tmplRun_inv (writes : List (Name × Name × R)) {s : Tmpl R} {pre : List (List R)} {ws : List (Name × R)}
    (h : TmplInv s pre ws) : ∃ s', tmplRun s writes = some s' ∧
      TmplInv s' pre (ws ++ writes.map (fun w => (w.1, w.2.2))) := by
  induction writes generalizing s ws with
  | nil => exact ⟨s, rfl, by simpa using h⟩
  | cons w writes ih =>
    obtain ⟨p, st, r⟩ := w
    obtain ⟨s1, h1, hinv1⟩ := tmplWrite_inv p st r h
    obtain ⟨s2, h2, hinv2⟩ := ih hinv1
    refine ⟨s2, ?_, ?_⟩
    · simp [tmplRun, h1, h2]
    · simpa [List.append_assoc] using hinv2

theorem acceptedWrites_cons (op : TOp R) (ok : Bool) (ops : List (TOp R)) (oks : List Bool) :
    acceptedWrites (op :: ops) (ok :: oks) = acceptedWrites [op] [ok] ++ acceptedWrites ops oks := by
  cases op <;> cases ok <;> rfl

theorem tmplStepC_inv {s : TmplC R} {pre : List (List R)} {ws : List (Name × R)} (op : TOp R) (h : TmplInv s.t pre ws) :
    ∃ s1 ok, tmplStepC s op = some (s1, ok) ∧ TmplInv s1.t pre (ws ++ acceptedWrites [op] [ok]) := by
  cases op with
  | close => exact ⟨_, _, rfl, by simpa [acceptedWrites] using h⟩
  | write p st r =>
    by_cases hc : (s.closed && s.t.currentPath == some p) = true
    · exact ⟨s, false, by simp [tmplStepC, hc], by simpa [acceptedWrites] using h⟩
    · obtain ⟨t1, h1, hinv1⟩ := tmplWrite_inv p st r h
      exact ⟨⟨t1, false⟩, true, by simp [tmplStepC, hc, h1], by simpa [acceptedWrites] using hinv1⟩

theorem tmplRunC_inv : ∀ (ops : List (TOp R)) (s : TmplC R) (pre : List (List R)) (ws : List (Name × R)),
    TmplInv s.t pre ws → ∃ s' oks, tmplRunC s ops = some (s', oks) ∧ oks.length = ops.length ∧
      TmplInv s'.t pre (ws ++ acceptedWrites ops oks) := by
  intro ops
  induction ops with
  | nil => intro s pre ws h; exact ⟨s, [], rfl, rfl, by simpa [acceptedWrites] using h⟩
  | cons op ops ih =>
    intro s pre ws h
    obtain ⟨s1, ok, h1, hinv1⟩ := tmplStepC_inv op h
    obtain ⟨s2, oks, h2, hl, hinv2⟩ := ih s1 pre _ hinv1
    exact ⟨s2, ok :: oks, by simp [tmplRunC, h1, h2], by simp [hl], by rwa [acceptedWrites_cons, ← List.append_assoc]⟩

end FlowRecord.Writers
