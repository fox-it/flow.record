import FlowRecordProofs.Lemmas.Merge
/-!
Records under composition (C15): `ChainMap` lookup as lookup in the concatenation of the maps, the slots of a record
built by `init_from_dict`, and from these `extend_record` on any list of records, the grouped view and `_replace`.
-/
namespace FlowRecord.Compose
open FlowRecord.Descriptor

/-- Well-formed record: what `extend_record` returns (`extend_wf`) and what the slot lemmas ask of its arguments. -/
structure WF {V : Type} (r : Rec V) : Prop where
  nodup : (r.fields.map (·.2)).Nodup
  nores : ∀ n ∈ r.fields.map (·.2), n ∉ reservedNames
  slots : keys r.slots = r.fields.map (·.2) ++ reservedNames

theorem WF.nodup_keys {V : Type} {r : Rec V} (h : WF r) : (keys r.slots).Nodup := by
  rw [h.slots]
  exact List.nodup_append.mpr ⟨h.nodup, reservedNames_facts.1, fun a ha b hb e => h.nores a ha (e ▸ hb)⟩

/-- Validation guarantees it (C06). -/
def noReserved {V : Type} (recs : List (Rec V)) : Prop :=
  ∀ x ∈ recs, ∀ n ∈ x.fields.map (·.2), n ∉ reservedNames

variable {V : Type}

theorem chainGet_eq (maps : List (List (Str × V))) (k : Str) : chainGet maps k = alGet maps.flatten k := by
  rw [alGet, List.find?_flatten, List.map_findSome?]
  rfl

theorem alGet_initFromDict (dflt : Str → V) (ver : V) (name : Str) (fields : List (Str × Str))
    (get : Str → Option V) (k : Str) :
    alGet (initFromDict dflt ver name fields get).slots k =
      (alGet (slotTypes fields) k).map fun t => if k = versionName then ver else (get k).getD (dflt t) :=
  alGet_map_val _ (fun k t => if k = versionName then ver else (get k).getD (dflt t)) k

theorem keys_initFromDict (dflt : Str → V) (ver : V) (name : Str) (fields : List (Str × Str))
    (get : Str → Option V) : keys (initFromDict dflt ver name fields get).slots = keys (slotTypes fields) :=
  keys_map_val _ _

theorem keys_slotTypes (fields : List (Str × Str)) (hnores : ∀ n ∈ fields.map (·.2), n ∉ reservedNames) :
    keys (slotTypes fields) = firstOcc (fields.map (·.2)) ++ reservedNames :=
  keys_allFields ⟨[], fields⟩ hnores

/-- `out`: any record that is an `init_from_dict` (`extendRecord_eq`; by `rfl` in `rewrite`). -/
theorem alGet_initFromDict_eq {dflt : Str → V} {ver : V} {name : Str} {fields : List (Str × Str)}
    {get : Str → Option V} {out : Rec V} (ho : out = initFromDict dflt ver name fields get) {k : Str}
    (hv : k ≠ versionName) (h : k ∈ keys out.slots ↔ (get k).isSome = true) : alGet out.slots k = get k := by
  subst ho
  rw [keys_initFromDict] at h
  rw [alGet_initFromDict]
  cases hg : get k with
  | none => rw [alGet_eq_none_iff.mpr fun hk => by simpa [hg] using h.mp hk]; rfl
  | some v =>
    obtain ⟨t, ht⟩ := exists_alGet_of_mem (h.mpr (hg ▸ rfl))
    rw [ht, Option.map_some, if_neg hv]; rfl

theorem mem_names_merge (replace : Bool) (recs : List (Rec V)) (n : Str) :
    n ∈ (mergeFields replace (recs.map (·.fields))).map (·.2) ↔ ∃ x ∈ recs, n ∈ x.fields.map (·.2) := by
  rw [names_mergeFields, mem_firstOcc, List.flatMap_id, ← List.flatMap_def, List.map_flatMap, List.mem_flatMap]

theorem noReserved_mergeFields {recs : List (Rec V)} (hnr : noReserved recs) (replace : Bool) :
    ∀ n ∈ (mergeFields replace (recs.map (·.fields))).map (·.2), n ∉ reservedNames := fun n hn =>
  have ⟨x, hx, h⟩ := (mem_names_merge replace recs n).mp hn
  hnr x hx n h

theorem versionName_mem : versionName ∈ reservedNames := by
  -- `cps "_version"` is in the list as written: no literal is decoded (so no `cps_ofList`)
  simp [reservedNames, Gen.RESERVED_FIELDS, versionName]

section extend
variable {dflt : Str → V} {ver : V} {replace : Bool} {name : Option Str} {r : Rec V} {others : List (Rec V)}

theorem extendRecord_eq : extendRecord dflt ver replace name r others =
    initFromDict dflt ver (name.getD r.name) (mergeFields replace ((r :: others).map (·.fields)))
      (alGet ((if replace then (r :: others).reverse else r :: others).flatMap (·.slots))) := by
  refine congrArg (initFromDict dflt ver _ _) (funext fun k => ?_)
  rw [chainGet_eq]
  cases replace <;> simp [List.flatMap_def, List.map_reverse]

theorem keys_extend (hnr : noReserved (r :: others)) :
    keys (extendRecord dflt ver replace name r others).slots =
      (mergeFields replace ((r :: others).map (·.fields))).map (·.2) ++ reservedNames := by
  rw [extendRecord_eq, keys_initFromDict, keys_slotTypes _ (noReserved_mergeFields hnr replace),
    firstOcc_nodup_eq _ (nodup_names_mergeFields _ _)]

theorem alGet_extend_version (hnr : noReserved (r :: others)) :
    alGet (extendRecord dflt ver replace name r others).slots versionName = some ver := by
  obtain ⟨t, ht⟩ := exists_alGet_of_mem (keys_slotTypes _ (noReserved_mergeFields hnr replace) ▸
    List.mem_append_right _ versionName_mem)
  rw [extendRecord_eq, alGet_initFromDict, ht]
  exact congrArg some (if_pos rfl)

theorem extend_wf (hnr : noReserved (r :: others)) : WF (extendRecord dflt ver replace name r others) :=
  ⟨nodup_names_mergeFields _ _, noReserved_mergeFields hnr replace, keys_extend hnr⟩

theorem extend_values {k : Str} {v : V} (hnr : noReserved (r :: others))
    (hk : k ∈ (mergeFields replace ((r :: others).map (·.fields))).map (·.2) ∨ k ∈ reservedNames)
    (hv : k ≠ versionName)
    (hget : alGet ((if replace then (r :: others).reverse else r :: others).flatMap (·.slots)) k = some v) :
    alGet (extendRecord dflt ver replace name r others).slots k = some v :=
  (alGet_initFromDict_eq extendRecord_eq hv
    (iff_of_true (keys_extend hnr ▸ List.mem_append.mpr hk) (hget ▸ rfl))).trans hget

theorem mem_keys_extend (hwf : ∀ x ∈ r :: others, WF x) (k : Str) :
    k ∈ keys (extendRecord dflt ver replace name r others).slots ↔ ∃ x ∈ r :: others, k ∈ keys x.slots := by
  rw [keys_extend fun x hx => (hwf x hx).nores, List.mem_append, mem_names_merge]
  constructor
  · rintro (⟨x, hx, h⟩ | h)
    · exact ⟨x, hx, (hwf x hx).slots ▸ List.mem_append_left _ h⟩
    · exact ⟨r, List.mem_cons_self, (hwf r List.mem_cons_self).slots ▸ List.mem_append_right _ h⟩
  · rintro ⟨x, hx, h⟩
    exact (List.mem_append.mp ((hwf x hx).slots ▸ h)).imp (fun h => ⟨x, hx, h⟩) id

theorem extend_get {k : Str} (hwf : ∀ x ∈ r :: others, WF x) (hv : k ≠ versionName) :
    alGet (extendRecord dflt ver replace name r others).slots k =
      alGet ((if replace then (r :: others).reverse else r :: others).flatMap (·.slots)) k := by
  have hprio : ∀ x, x ∈ (if replace then (r :: others).reverse else r :: others) ↔ x ∈ r :: others := by
    cases replace
    · exact fun _ => Iff.rfl
    · exact fun _ => List.mem_reverse
  refine alGet_initFromDict_eq extendRecord_eq hv ?_
  -- the name is a slot of the result, and a key of the concatenation, exactly when one of the records has the slot
  rw [mem_keys_extend hwf, alGet_isSome_iff, mem_keys_flatMap]
  exact exists_congr fun x => and_congr_left fun _ => (hprio x).symm

end extend

theorem groupedFields_eq (members : List (Rec V)) (hwf : ∀ x ∈ members, WF x) :
    groupedFields members = mergeFields false (members.map (·.fields)) := by
  have hx : ∀ x ∈ members, (fieldMap x.fields ++ reservedFields).filter (fun p => !reservedNames.contains p.1) =
      nameTypes x.fields := by
    intro x hx
    rw [List.filter_append, fieldMap_nodup _ (hwf x hx).nodup, List.filter_eq_self.mpr, List.filter_eq_nil_iff.mpr,
      List.append_nil]
    · intro p hp
      simpa using (keys_reservedFields ▸ List.mem_map_of_mem hp : p.1 ∈ reservedNames)
    · intro p hp
      simpa using (hwf x hx).nores p.1 (keys_nameTypes _ ▸ List.mem_map_of_mem hp)
  -- the loop body written out in `groupedFields` is `mergeStep false` (`mergeStep_noreplace`, right to left), so the
  -- nested loops are one first-wins fold over every member's dictionary followed by the reserved fields
  have hfold : groupedFields members = nameTypes (((members.flatMap fun x => fieldMap x.fields ++ reservedFields).foldl
      (mergeStep false) []).filter fun p => !reservedNames.contains p.1) := by
    rw [groupedFields]
    simp only [← mergeStep_noreplace]
    rw [← List.foldl_flatMap]
    rfl
  -- dropping the reserved names commutes with that fold and leaves of each member its own field tuples (`hx`)
  rw [hfold, filter_foldl_noreplace fun k => !reservedNames.contains k, List.filter_flatMap, mergeFields_eq,
    mergeMap_flat, List.flatMap_map, List.flatMap_def, List.map_congr_left hx]
  rfl

theorem groupedGet_eq (members : List (Rec V)) (k : Str) :
    groupedGet members k = alGet (members.flatMap (·.slots)) k := by
  rw [groupedGet, chainGet_eq, List.flatMap_def]

theorem groupedGet_first {pre post : List (Rec V)} {x : Rec V} {k : Str} {v : V}
    (hpre : ∀ p ∈ pre, k ∉ keys p.slots) (hx : alGet x.slots k = some v) :
    groupedGet (pre ++ x :: post) k = some v :=
  (groupedGet_eq _ k).trans (alGet_flatMap_first Rec.slots hpre hx)

theorem replaceRec_eq_none_iff (ver : V) (r : Rec V) (kvs : List (Str × V)) :
    replaceRec ver r kvs = none ↔ ∃ p ∈ kvs, p.1 ∉ keys r.slots := by
  have : (kvs.any fun p => !(keys r.slots).contains p.1) = true ↔ ∃ p ∈ kvs, p.1 ∉ keys r.slots := by
    simp only [List.any_eq_true, Bool.not_eq_true', List.contains_eq_mem, decide_eq_false_iff_not]
  rw [← this, replaceRec]
  split
  · exact iff_of_true rfl ‹_›
  · exact iff_of_false nofun ‹_›

theorem replaceRec_eq_some {ver : V} {r out : Rec V} {kvs : List (Str × V)}
    (h : replaceRec ver r kvs = some out) :
    out.name = r.name ∧ out.fields = r.fields ∧ keys out.slots = keys r.slots ∧
    ∀ k, alGet out.slots k =
      (alGet r.slots k).map fun v => if k = versionName then ver else (alGet kvs k).getD v := by
  unfold replaceRec at h
  split at h
  · cases h
  · cases h
    exact ⟨rfl, rfl, keys_map_val r.slots _, alGet_map_val r.slots fun k v =>
      if k = versionName then ver else (alGet kvs k).getD v⟩

end FlowRecord.Compose
