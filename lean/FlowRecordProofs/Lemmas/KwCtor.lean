import FlowRecord.Gen.Record
/-!
The constructor generated for record types with a field named like a Python keyword (`*args, **kwargs`): readers that
build records by keyword (JSON, Avro, SQLite, CSV) go through it. Only `template_is_frozen` says something about the
source. `slotValue` is `Option.getD`: it spells out what `kwargs.get(k, v)` in the frozen text means, and no model
function goes through it (in `Model/Json.lean` the constructor is `decField`'s `kw` flag).
-/
namespace FlowRecord.KwCtor

/-- `kwargs.get(k, v)`: the keyword argument when the key is PRESENT (whatever its value: 0, "", False, []), else the
    positional value -/
def slotValue {V : Type} (kw : Option V) (pos : V) : V := kw.getD pos

/-- the frozen template lines (the loop assigns `kwargs.get(k, v)`; `_unpack` tests `is not None`, not truthiness) -/
def frozenInit : String :=
  "\t\tfor k, v in _zip_longest(__self.__slots__, args):\n\t\t\tsetattr(__self, k, kwargs.get(k, v))\n\t\t_generated = __self._generated\n"
def frozenUnpack : String :=
  "\t\tvalues = dict([(f, __cls._field_types[f]._unpack(kwargs.get(f, v)) if kwargs.get(f, v) is not None else None) for f, v in _zip_longest(__cls.__slots__, args)])\n\t\treturn __cls(**values)"

theorem template_is_frozen : Gen.tplKwInit = frozenInit ∧ Gen.tplKwUnpack = frozenUnpack := ⟨rfl, rfl⟩

theorem slotValue_keyword {V : Type} (x pos : V) : slotValue (some x) pos = x := rfl

theorem slotValue_positional {V : Type} (pos : V) : slotValue (none : Option V) pos = pos := rfl

end FlowRecord.KwCtor
