import FlowRecord.Model.Avro
/-!
For C19. Names: `descriptor_to_schema` splits at the last `/`, fastavro joins with `.`, the fallback replaces and strips;
these undo each other on names the library accepts (`NameOk`). The block buffer decodes row by row as long as every
record counted in it was written whole (`Chunked`, `Clean`): tokens a refused record left behind the counted rows are
never reached.
-/
namespace FlowRecord.Avro

/-! ### Names -/

theorem rpartition_spec (sep : Char) (s : Text) :
    (sep ∉ s → rpartition sep s = ([], s)) ∧
    (sep ∈ s → (rpartition sep s).1 ++ sep :: (rpartition sep s).2 = s) := by
  have hsplit := List.takeWhile_append_dropWhile (p := (· != sep)) (l := s.reverse)
  cases hdw : s.reverse.dropWhile (· != sep) with
  | nil =>
    rw [hdw, List.append_nil] at hsplit
    have hall := List.all_takeWhile (p := (· != sep)) (l := s.reverse)
    rw [hsplit] at hall
    simp only [rpartition, hdw]
    exact ⟨fun _ => trivial, fun h => by simp at hall; exact absurd rfl (hall sep h)⟩
  | cons a before =>
    have ha : a = sep := by
      simpa [hdw] using List.head_dropWhile_not (· != sep) (l := s.reverse) (by simp [hdw])
    rw [hdw, ha] at hsplit
    have hs := congrArg List.reverse hsplit
    simp only [List.reverse_append, List.reverse_cons, List.reverse_reverse, List.append_assoc,
      List.singleton_append] at hs
    simp only [rpartition, hdw]
    exact ⟨fun h => absurd (hs ▸ List.mem_append_right _ List.mem_cons_self) h, fun _ => hs⟩

theorem replaceChar_id {a : Char} (b : Char) {s : Text} (h : a ∉ s) : replaceChar a b s = s :=
  (List.map_congr_left fun c hc => if_neg fun e : c = a => h (e ▸ hc)).trans (List.map_id s)

theorem replaceChar_append (a b : Char) (s t : Text) :
    replaceChar a b (s ++ t) = replaceChar a b s ++ replaceChar a b t := by simp [replaceChar]

theorem stripChar_id {a : Char} {s : Text} (h1 : s.head? ≠ some a) (h2 : s.getLast? ≠ some a) : stripChar a s = s := by
  rw [stripChar, List.dropWhile_beq_eq_self_of_head?_ne h1,
    List.dropWhile_beq_eq_self_of_head?_ne (by rwa [List.head?_reverse]), List.reverse_reverse]

theorem stripChar_cons (a : Char) (s : Text) : stripChar a (a :: s) = stripChar a s := by
  simp [stripChar]

/-- what `RE_VALID_RECORD_TYPE_NAME` implies of a descriptor name -/
structure NameOk (n : Text) : Prop where
  nodot : '.' ∉ n
  head : n.head? ≠ some '/'
  last : n.getLast? ≠ some '/'

theorem fallbackName_rpartition {n : Text} (h : NameOk n) (doc : Option Text) (fs : List (String × AType)) :
    fallbackName ⟨some (rpartition '/' n).1, (rpartition '/' n).2, doc, fs⟩ = n := by
  obtain ⟨h1, h2⟩ := rpartition_spec '/' n
  simp only [fallbackName, Option.getD_some]
  by_cases hm : '/' ∈ n
  · rw [h2 hm, replaceChar_id _ h.nodot, stripChar_id h.head h.last]
  · rw [h1 hm, List.nil_append, replaceChar_id _ (by simp [h.nodot]), stripChar_cons, stripChar_id h.head h.last]

theorem fallbackName_fastavroNorm (s : Schema) : fallbackName (fastavroNorm s) = fallbackName s := by
  obtain ⟨_ | _ | ⟨c, cs⟩, name, doc, fs⟩ := s
  · rfl
  · rfl
  · -- the joined name goes through `replaceChar` with a `/` in front, which `stripChar` takes off again
    simp only [fallbackName, fastavroNorm, Option.getD_none, Option.getD_some, List.nil_append, replaceChar,
      List.map_cons, List.map_append, ite_self, if_pos]
    exact stripChar_cons _ _

theorem schemaToDescriptor_fastavroNorm (J : JsonTextLaws) (s : Schema) :
    schemaToDescriptor J (fastavroNorm s) = schemaToDescriptor J s := by
  have hd : (fastavroNorm s).doc = s.doc := by unfold fastavroNorm; split <;> rfl
  have hf : (fastavroNorm s).fields = s.fields := by unfold fastavroNorm; split <;> rfl
  simp only [schemaToDescriptor, hd, hf, fallbackName_fastavroNorm]

/-! ### The doc sniff -/

theorem joinWith_items_last (sep : Text) (items : List Text) (hne : items ≠ [])
    (hlast : ∀ it ∈ items, ∃ pre, it = pre ++ [']']) : ∃ pre, joinWith sep items = pre ++ [']'] := by
  fun_induction joinWith sep items with
  | case1 => exact absurd rfl hne
  | case2 x => exact hlast x List.mem_cons_self
  | case3 x y rest ih =>
    obtain ⟨pre, hp⟩ := ih (List.cons_ne_nil _ _) fun it hit => hlast it (List.mem_cons_of_mem _ hit)
    exact ⟨x ++ sep ++ pre, by rw [hp]; exact (List.append_assoc ..).symm⟩

theorem docSniff_dumps (J : JsonTextLaws) (d : Desc) : docSniff (dumps J d) = !d.fields.isEmpty := by
  have hp : Gen.avroDocPrefix.toList = ['[', '"'] := by decide
  have hs : Gen.avroDocSuffix.toList = [']', ']', ']'] := by decide
  cases hf : d.fields with
  | nil =>
    simp [docSniff, dumps, hf, hp, hs, startsWith, endsWith, quote, joinWith, List.isPrefixOf]
  | cons f rest =>
    obtain ⟨pre, hpre⟩ := joinWith_items_last [',', ' ']
      ((f :: rest).map fun f => '[' :: (quote J f.1 ++ [',', ' '] ++ quote J f.2 ++ [']'])) (by simp)
      (by
        intro it hit
        obtain ⟨g, _, hg⟩ := List.mem_map.mp hit
        exact ⟨'[' :: (quote J g.1 ++ [',', ' '] ++ quote J g.2), by rw [← hg]; simp⟩)
    simp only [docSniff, dumps, hf, hpre]
    simp [hp, hs, startsWith, endsWith, quote, List.isPrefixOf]

/-! ### Schema fields -/

def Mappable (t : String) : Prop :=
  t = Gen.avroLogicalFieldType ∨ ∃ a, assoc Gen.AVRO_TYPE_MAP t = some a ∧ a ≠ ""

theorem fieldSchema_ok {t : String} (h : Mappable t) : ∃ a, fieldSchema t = .ok a := by
  unfold fieldSchema
  by_cases h1 : t = Gen.avroLogicalFieldType
  · exact ⟨.tsMicros, by simp [h1]⟩
  · rcases h with h | ⟨a, ha, hne⟩
    · exact absurd h h1
    · exact ⟨.prim a, by simp [h1, ha, hne]⟩

theorem fieldSchema_err {t : String} (h : ¬ Mappable t) : fieldSchema t = .error (.unsupportedType t) := by
  fun_cases fieldSchema t with
  | case1 h1 => exact absurd (.inl h1) h
  | case3 h1 a ha hne => exact absurd (.inr ⟨a, ha, hne⟩) h
  | case2 | case4 => rfl

theorem fieldsSchema_append (l1 l2 : List (String × String)) :
    fieldsSchema (l1 ++ l2) =
      match fieldsSchema l1 with
      | .error e => .error e
      | .ok a => match fieldsSchema l2 with
        | .error e => .error e
        | .ok b => .ok (a ++ b) := by
  fun_induction fieldsSchema l1 with
  | case1 => rw [List.nil_append]; cases fieldsSchema l2 <;> rfl
  | case2 t n rest e he => rw [List.cons_append, fieldsSchema, he]
  | case3 t n rest a ha e he ih => rw [List.cons_append, fieldsSchema, ha, ih, he]
  | case4 t n rest a ha l hl ih => rw [List.cons_append, fieldsSchema, ha, ih, hl]; cases fieldsSchema l2 <;> rfl

theorem fieldsSchema_ok {l : List (String × String)} (h : ∀ f ∈ l, Mappable f.1) : ∃ fs, fieldsSchema l = .ok fs := by
  induction l with
  | nil => exact ⟨[], rfl⟩
  | cons p rest ih =>
    obtain ⟨hp, hrest⟩ := List.forall_mem_cons.mp h
    obtain ⟨a, ha⟩ := fieldSchema_ok hp
    obtain ⟨fs, hfs⟩ := ih hrest
    exact ⟨(p.2, a) :: fs, by rw [fieldsSchema, ha, hfs]⟩

theorem fieldsSchema_err {l1 l2 : List (String × String)} {t n : String} (h1 : ∀ f ∈ l1, Mappable f.1)
    (h : ¬ Mappable t) : fieldsSchema (l1 ++ (t, n) :: l2) = .error (.unsupportedType t) := by
  obtain ⟨fs, hfs⟩ := fieldsSchema_ok h1
  rw [fieldsSchema_append, hfs]
  simp [fieldsSchema, fieldSchema_err h]

def reservedSchema : List (String × AType) :=
  [("_source", .prim "string"), ("_classification", .prim "string"), ("_generated", .tsMicros), ("_version", .prim "long")]

theorem fieldsSchema_reserved : fieldsSchema (Gen.RESERVED_FIELDS.map (fun p => (p.2, p.1))) = .ok reservedSchema := by
  rfl

/-- every reserved name begins with `_`, so the fallback skips it -/
theorem fallbackFields_reservedSchema : fallbackFields reservedSchema = .ok [] := by
  unfold reservedSchema
  repeat rw [fallbackFields, String.toList_ofList, List.head?_cons, if_pos rfl]
  rfl

theorem descriptorToSchema_eq (J : JsonTextLaws) (d : Desc) :
    descriptorToSchema J d = (fieldsSchema d.fields).map fun fs =>
      ⟨some (rpartition '/' d.name.toList).1, (rpartition '/' d.name.toList).2, some (dumps J d), fs ++ reservedSchema⟩ := by
  rw [descriptorToSchema, allFields, fieldsSchema_append, fieldsSchema_reserved]
  cases fieldsSchema d.fields <;> rfl

/-! ### `write` by equations -/
section write
variable (J : JsonTextLaws) (L : AvroLaws) (F : FloatLaws) {st : WState} {r : Rec}

/-- the descriptor is stored before the schema is built, and stays when that fails -/
theorem write_first (hd : st.desc = none) :
    write J L F st r =
      match descriptorToSchema J r.desc with
      | .error e => ({ st with desc := some r.desc }, some e)
      | .ok s => write J L F { st with desc := some r.desc, cols := some s.fields } r := by
  unfold write
  rw [hd]
  cases descriptorToSchema J r.desc <;> rfl

theorem write_mixed {d : Desc} (hd : st.desc = some d) (hne : r.desc ≠ d) : write J L F st r = (st, some .mixed) := by
  simp [write, hd, Ne.symm hne]

theorem write_noWriter (hd : st.desc = some r.desc) (hc : st.cols = none) :
    write J L F st r = (st, some .noWriter) := by
  simp [write, hd, hc]

theorem write_open {cols : List (String × AType)} (hd : st.desc = some r.desc) (hc : st.cols = some cols) :
    write J L F st r =
      match emitRow L F cols r.values 0 with
      | (toks, none) => ({ st with buf := st.buf ++ toks, count := st.count + 1 }, none)
      | (toks, some i) => ({ st with buf := st.buf ++ toks }, some (.refused i)) := by
  simp only [write, hd, hc, ne_eq, not_true, if_false]
  rfl

theorem write_desc {d : Desc} (hd : st.desc = some d) : (write J L F st r).1.desc = some d := by
  by_cases hm : r.desc = d
  · subst hm
    cases hc : st.cols with
    | none => rw [write_noWriter J L F hd hc]; exact hd
    | some cols => rw [write_open J L F hd hc]; split <;> exact hd
  · rw [write_mixed J L F hd hm]; exact hd

end write

/-! ### The block buffer -/

theorem takeRow_emit (L : AvroLaws) (F : FloatLaws) (cols : List (String × AType)) (vs : List Val) (i : Nat)
    (rest : List Val) (h : (emitRow L F cols vs i).2 = none) :
    takeRow L cols ((emitRow L F cols vs i).1 ++ rest) = some (vs.map (stored F), rest) := by
  fun_induction emitRow L F cols vs i with
  | case1 n t cols v vs i ha r ih =>
    simp only [List.cons_append, takeRow, L.stored_ok F t v ha, if_true, List.map_cons]
    rw [ih h]
  | case4 => rfl
  | _ => cases h

def allAccepted (L : AvroLaws) : List (String × AType) → List Val → Bool
  | (_, t) :: cols, v :: vs => L.accepts t v && allAccepted L cols vs
  | [], [] => true
  | _, _ => false

theorem emitRow_ok_iff (L : AvroLaws) (F : FloatLaws) (cols : List (String × AType)) (vs : List Val) (i : Nat) :
    (emitRow L F cols vs i).2 = none ↔ allAccepted L cols vs = true := by
  fun_induction emitRow L F cols vs i with
  | case1 n t cols v vs i ha r ih => rw [allAccepted, ha]; exact ih
  | case2 n t cols v vs i ha | case3 n t cols v vs i ha => rw [allAccepted]; simp [ha]
  | case4 | case5 => simp [allAccepted]

/-- `chunks` are the token groups of `rows`: each decodes, wherever it stands, to its row and nothing more -/
def Chunked (L : AvroLaws) (cols : List (String × AType)) : List (List Val) → List (List Val) → Prop
  | [], [] => True
  | c :: cs, r :: rs => (∀ e, takeRow L cols (c ++ e) = some (r, e)) ∧ Chunked L cols cs rs
  | _, _ => False

theorem takeRows_chunked {L : AvroLaws} {cols : List (String × AType)} {chunks rows : List (List Val)}
    (extra : List Val) (h : Chunked L cols chunks rows) :
    takeRows L cols rows.length (chunks.flatten ++ extra) = some rows := by
  fun_induction Chunked L cols chunks rows with
  | case1 => rfl
  | case2 c cs r rs ih => simp only [List.flatten_cons, List.append_assoc, List.length_cons, takeRows, h.1, ih h.2]
  | case3 => exact h.elim

theorem chunked_snoc {L : AvroLaws} {cols : List (String × AType)} {chunks rows : List (List Val)} {c r : List Val}
    (h : Chunked L cols chunks rows) (hc : ∀ e, takeRow L cols (c ++ e) = some (r, e)) :
    Chunked L cols (chunks ++ [c]) (rows ++ [r]) := by
  fun_induction Chunked L cols chunks rows with
  | case1 => exact ⟨hc, trivial⟩
  | case2 c0 cs r0 rs ih => exact ⟨h.1, ih h.2⟩
  | case3 => exact h.elim

/-- the state a run of accepted writes produces: the block holds exactly `rows` -/
def Clean (L : AvroLaws) (st : WState) (cols : List (String × AType)) (rows : List (List Val)) : Prop :=
  st.cols = some cols ∧ st.count = rows.length ∧ ∃ chunks, st.buf = chunks.flatten ∧ Chunked L cols chunks rows

theorem clean_opened (L : AvroLaws) (d : Desc) (cols : List (String × AType)) :
    Clean L ⟨some d, some cols, [], 0⟩ cols [] :=
  ⟨rfl, rfl, [], rfl, trivial⟩

theorem fileRows_clean_extra {L : AvroLaws} {st : WState} {cols : List (String × AType)} {rows : List (List Val)}
    (extra : List Val) (h : Clean L st cols rows) : fileRows L { st with buf := st.buf ++ extra } = some rows := by
  obtain ⟨h1, h2, chunks, h3, h4⟩ := h
  simpa [fileRows, h1, h2, h3] using takeRows_chunked extra h4

theorem fileRows_clean {L : AvroLaws} {st : WState} {cols : List (String × AType)} {rows : List (List Val)}
    (h : Clean L st cols rows) : fileRows L st = some rows := by
  simpa using fileRows_clean_extra [] h

theorem writeAll_cons (J : JsonTextLaws) (L : AvroLaws) (F : FloatLaws) (st : WState) (r : Rec) (rs : List Rec) :
    writeAll J L F st (r :: rs) =
      ((writeAll J L F (write J L F st r).1 rs).1, (write J L F st r).2 :: (writeAll J L F (write J L F st r).1 rs).2) :=
  rfl

theorem write_clean (J : JsonTextLaws) {L : AvroLaws} (F : FloatLaws) {st : WState} {cols : List (String × AType)}
    {rows : List (List Val)} (r : Rec) (hclean : Clean L st cols rows) (hd : st.desc = some r.desc) :
    (allAccepted L cols r.values = true →
      (write J L F st r).2 = none ∧ Clean L (write J L F st r).1 cols (rows ++ [r.values.map (stored F)])) ∧
    (allAccepted L cols r.values = false →
      (∃ i, (write J L F st r).2 = some (.refused i)) ∧ fileRows L (write J L F st r).1 = some rows) := by
  obtain ⟨hc1, hc2, chunks, hc3, hc4⟩ := hclean
  have hiff := emitRow_ok_iff L F cols r.values 0
  have htake := takeRow_emit L F cols r.values 0
  rw [write_open J L F hd hc1]
  cases hem : emitRow L F cols r.values 0 with
  | mk toks e =>
    rw [hem] at hiff htake
    cases e with
    | none =>
      exact ⟨fun _ => ⟨rfl, hc1, by simp [hc2], chunks ++ [toks], by simp [hc3],
          chunked_snoc hc4 fun ex => htake ex rfl⟩,
        fun hrej => by rw [hiff.mp rfl] at hrej; cases hrej⟩
    | some i =>
      exact ⟨fun hacc => (nomatch hiff.mpr hacc),
        fun _ => ⟨⟨i, rfl⟩, fileRows_clean_extra toks ⟨hc1, hc2, chunks, hc3, hc4⟩⟩⟩

theorem writeAll_clean (J : JsonTextLaws) {L : AvroLaws} (F : FloatLaws) (recs : List Rec) {st : WState}
    {cols : List (String × AType)} {rows : List (List Val)} (hc : Clean L st cols rows)
    (hdesc : ∀ r ∈ recs, st.desc = some r.desc) (hok : ∀ e ∈ (writeAll J L F st recs).2.dropLast, e = none) :
    fileRows L (writeAll J L F st recs).1 = some (rows ++ accepted F recs (writeAll J L F st recs).2) := by
  induction recs generalizing st rows with
  | nil => simpa [writeAll, accepted] using fileRows_clean hc
  | cons r rs ih =>
    obtain ⟨hd, hdesc⟩ := List.forall_mem_cons.mp hdesc
    obtain ⟨hacc, hrej⟩ := write_clean J F r hc hd
    cases rs with
    | nil =>
      -- the last write may be refused: the file then still reads the earlier rows
      simp only [writeAll]
      cases hall : allAccepted L cols r.values with
      | true => obtain ⟨h1, h2⟩ := hacc hall; simp [h1, fileRows_clean h2, accepted]
      | false => obtain ⟨⟨i, h1⟩, h2⟩ := hrej hall; simp [h1, h2, accepted]
    | cons r' rs' =>
      rw [writeAll_cons] at hok ⊢
      rw [List.dropLast_cons_of_ne_nil (by rw [writeAll_cons]; simp)] at hok
      obtain ⟨he, hok⟩ := List.forall_mem_cons.mp hok
      cases hall : allAccepted L cols r.values with
      | false => obtain ⟨⟨i, h1⟩, _⟩ := hrej hall; rw [he] at h1; cases h1
      | true =>
        have := ih (hacc hall).2 (fun r'' h => by rw [write_desc J L F hd, ← hd]; exact hdesc r'' h) hok
        rw [he, accepted, List.append_cons]; exact this

end FlowRecord.Avro
