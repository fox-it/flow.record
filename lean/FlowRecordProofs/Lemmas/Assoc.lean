import FlowRecord.Model.Descriptor
/-!
Association lists as the model uses them: lookup (`alGet`), `OrderedDict.__setitem__` (`odSet`: key order is order of
first appearance, the value is the one assigned last) and the reference `firstOcc`. At the end `cps_ofList` and the
reserved metadata fields, here because this is the one lemma file the files of C06 and of C15 share.
-/
namespace FlowRecord.Descriptor

variable {α β γ : Type}

theorem alGet_nil (k : Str) : alGet ([] : List (Str × α)) k = none := rfl

theorem alGet_cons (p : Str × α) (m : List (Str × α)) (k : Str) :
    alGet (p :: m) k = if p.1 = k then some p.2 else alGet m k := by
  rw [alGet, List.find?_cons]
  by_cases h : p.1 = k
  · simp [h]
  · rw [beq_false_of_ne h, if_neg h]; rfl

theorem alGet_append (a b : List (Str × α)) (k : Str) :
    alGet (a ++ b) k = (alGet a k).or (alGet b k) := by
  simp only [alGet, List.find?_append, Option.map_or]

theorem keys_nil : keys ([] : List (Str × α)) = [] := rfl

theorem keys_cons (p : Str × α) (m : List (Str × α)) : keys (p :: m) = p.1 :: keys m := rfl

theorem keys_append (a b : List (Str × α)) : keys (a ++ b) = keys a ++ keys b :=
  List.map_append

theorem alGet_isSome_iff {m : List (Str × α)} {k : Str} : (alGet m k).isSome = true ↔ k ∈ keys m := by
  simp only [alGet, keys, Option.isSome_map, List.find?_isSome, List.mem_map, beq_iff_eq]

theorem alGet_eq_none_iff {m : List (Str × α)} {k : Str} : alGet m k = none ↔ k ∉ keys m := by
  rw [← alGet_isSome_iff, Option.not_isSome_iff_eq_none]

theorem exists_alGet_of_mem {m : List (Str × α)} {k : Str} (h : k ∈ keys m) : ∃ v, alGet m k = some v :=
  Option.isSome_iff_exists.mp (alGet_isSome_iff.mpr h)

theorem some_getD_of_mem (m : List (Str × α)) (k : Str) (d : α) (h : k ∈ keys m) :
    some ((alGet m k).getD d) = alGet m k := by
  obtain ⟨v, hv⟩ := exists_alGet_of_mem h
  rw [hv]; rfl

theorem alGet_of_mem {m : List (Str × α)} (h : (keys m).Nodup) {k : Str} {v : α} (hm : (k, v) ∈ m) :
    alGet m k = some v := by
  induction m with
  | nil => cases hm
  | cons p m ih =>
    obtain ⟨hp, hnd⟩ := List.nodup_cons.mp h
    rw [alGet_cons]
    rcases List.mem_cons.mp hm with rfl | hm
    · exact if_pos rfl
    · rw [if_neg fun e => hp (List.mem_map.mpr ⟨_, hm, e.symm⟩), ih hnd hm]

theorem mem_keys_filter (P : Str → Bool) (m : List (Str × α)) (k : Str) :
    k ∈ keys (m.filter fun q => P q.1) ↔ k ∈ keys m ∧ P k = true := by
  rw [← List.mem_filter, keys, keys, List.filter_map]
  rfl

theorem alGet_map_val (m : List (Str × α)) (f : Str → α → β) (k : Str) :
    alGet (m.map fun p => (p.1, f p.1 p.2)) k = (alGet m k).map (f k) := by
  induction m with
  | nil => rfl
  | cons p m ih =>
    rw [List.map_cons, alGet_cons, alGet_cons]
    by_cases h : p.1 = k
    · simp [h]
    · simp [h, ih]

theorem keys_map_val (m : List (Str × α)) (f : Str × α → β) : keys (m.map fun p => (p.1, f p)) = keys m :=
  List.map_map

theorem mem_keys_flatMap (f : γ → List (Str × α)) (l : List γ) (k : Str) :
    k ∈ keys (l.flatMap f) ↔ ∃ x ∈ l, k ∈ keys (f x) := by
  rw [keys, List.map_flatMap, List.mem_flatMap]; rfl

theorem alGet_flatMap_first (f : γ → List (Str × α)) {pre post : List γ} {x : γ} {k : Str} {v : α}
    (hpre : ∀ p ∈ pre, k ∉ keys (f p)) (hx : alGet (f x) k = some v) :
    alGet ((pre ++ x :: post).flatMap f) k = some v := by
  have hnone : alGet (pre.flatMap f) k = none :=
    alGet_eq_none_iff.mpr fun h => have ⟨p, hp, hk⟩ := (mem_keys_flatMap f pre k).mp h; hpre p hp hk
  rw [List.flatMap_append, List.flatMap_cons, alGet_append, alGet_append, hnone, hx]
  rfl

theorem keys_odSet (m : List (Str × α)) (k : Str) (v : α) :
    keys (odSet m k v) = if k ∈ keys m then keys m else keys m ++ [k] := by
  fun_induction odSet m k v with
  | case1 => rfl
  | case2 v' rest => simp [keys]
  | case3 k' v' rest h ih =>
    simp only [keys_cons, ih, List.mem_cons, Ne.symm h, false_or]
    split <;> rfl

theorem alGet_odSet (m : List (Str × α)) (k : Str) (v : α) (k' : Str) :
    alGet (odSet m k v) k' = if k' = k then some v else alGet m k' := by
  fun_induction odSet m k v with
  | case1 => rw [alGet_cons, alGet_nil]; simp [eq_comm]
  | case2 v' rest =>
    rw [alGet_cons, alGet_cons]
    by_cases h : k = k' <;> simp [h, eq_comm]
  | case3 k0 v0 rest h ih =>
    rw [alGet_cons, alGet_cons, ih]
    by_cases h1 : k0 = k'
    · subst h1; simp [h]
    · simp [h1]

theorem odSet_not_mem (m : List (Str × α)) (k : Str) (v : α) (h : k ∉ keys m) :
    odSet m k v = m ++ [(k, v)] := by
  fun_induction odSet m k v with
  | case1 => rfl
  | case2 v' rest => exact absurd List.mem_cons_self h
  | case3 k' v' rest _ ih => rw [ih fun hk => h (List.mem_cons_of_mem _ hk)]; rfl

theorem nodup_keys_odSet {α : Type} (m : List (Str × α)) (k : Str) (v : α) (h : (keys m).Nodup) :
    (keys (odSet m k v)).Nodup := by
  rw [keys_odSet]
  split
  · exact h
  · exact List.nodup_append.mpr ⟨h, by simp, fun a ha b hb e =>
      ‹k ∉ keys m› (List.mem_singleton.mp hb ▸ e ▸ ha)⟩

/-- For any step with the keys of `odSet`: `odSet` itself, `mergeStep` of `Merge`. -/
theorem keys_foldl_step (f : List (Str × α) → Str × α → List (Str × α))
    (hf : ∀ m p, keys (f m p) = keys (odSet m p.1 p.2)) (ps m : List (Str × α)) :
    keys (ps.foldl f m) = keys m ++ (firstOcc (keys ps)).filter (fun x => !(keys m).contains x) := by
  induction ps generalizing m with
  | nil => simp [keys_nil, firstOcc]
  | cons p ps ih =>
    rw [List.foldl_cons, ih, hf, keys_odSet, keys_cons, firstOcc, List.filter_cons, List.filter_filter]
    -- a later name is new after `p` iff it was new before and is not the name of `p`
    by_cases hk : p.1 ∈ keys m
    · rw [if_pos hk, if_neg (by simpa using hk)]
      exact congrArg _ (List.filter_congr fun x _ => by by_cases hx : x = p.1 <;> simp [hx, hk])
    · rw [if_neg hk, if_pos (by simpa using hk), List.append_assoc]
      exact congrArg _ (congrArg _ (List.filter_congr fun x _ => by by_cases hx : x = p.1 <;> simp [hx]))

theorem keys_foldl_nil (f : List (Str × α) → Str × α → List (Str × α))
    (hf : ∀ m p, keys (f m p) = keys (odSet m p.1 p.2)) (ps : List (Str × α)) :
    keys (ps.foldl f []) = firstOcc (keys ps) := by
  rw [keys_foldl_step f hf, keys_nil, List.nil_append]
  exact List.filter_eq_self.mpr fun _ _ => rfl

theorem keys_odOfList (ps : List (Str × α)) : keys (odOfList ps) = firstOcc (keys ps) :=
  keys_foldl_nil _ (fun _ _ => rfl) ps

theorem firstOcc_nodup_eq (l : List Str) (h : l.Nodup) : firstOcc l = l := by
  induction l with
  | nil => rfl
  | cons k ks ih =>
    obtain ⟨hk, hks⟩ := List.nodup_cons.mp h
    rw [firstOcc, ih hks, List.filter_eq_self.mpr fun x hx => bne_iff_ne.mpr fun (e : x = k) => hk (e ▸ hx)]

theorem mem_firstOcc {l : List Str} {x : Str} : x ∈ firstOcc l ↔ x ∈ l := by
  induction l with
  | nil => simp [firstOcc]
  | cons k ks ih =>
    simp only [firstOcc, List.mem_cons, List.mem_filter, ih, bne_iff_ne, ne_eq]
    by_cases h : x = k <;> simp [h]

theorem firstOcc_nodup (l : List Str) : (firstOcc l).Nodup := by
  induction l with
  | nil => simp [firstOcc]
  | cons k ks ih =>
    simp only [firstOcc]
    apply List.nodup_cons.mpr
    constructor
    · simp
    · exact ih.sublist List.filter_sublist

theorem firstOcc_append (a b : List Str) :
    firstOcc (a ++ b) = firstOcc a ++ (firstOcc b).filter (fun n => !(firstOcc a).contains n) := by
  induction a generalizing b with
  | nil =>
    simp only [firstOcc, List.nil_append, List.contains_nil, Bool.not_false]
    exact (List.filter_eq_self.mpr (fun _ _ => rfl)).symm
  | cons x a ih =>
    simp only [List.cons_append, firstOcc, ih, List.filter_append, List.filter_filter]
    congr 2
    apply List.filter_congr
    intro y _
    by_cases hy : y = x
    · subst hy; simp
    · simp [hy]

/-! ### string literals, the reserved fields -/

/-- The elaborator and the kernel both read a literal as `String.ofList` of its characters, so rewriting with this
    hands over the code points of a literal by unification. Evaluating `String.toList` decodes UTF-8 bytes instead,
    at some 10^4 heartbeats a character. -/
theorem cps_ofList (l : List Char) : cps (String.ofList l) = l.map Char.toNat := by
  rw [cps, String.toList_ofList]

theorem reservedNames_facts : reservedNames.Nodup ∧
    ∀ r ∈ reservedNames, startsWithUnderscore r = true ∧ r ≠ [] ∧ r.all isIdentChar = true := by
  simp only [reservedNames, Gen.RESERVED_FIELDS, List.map]
  repeat rw [cps_ofList]
  decide

theorem keys_reservedFields : keys reservedFields = reservedNames := by
  simp [keys, reservedFields, reservedNames, List.map_map, Function.comp_def]

theorem slots_eq_keys (d : Desc) : slots d = keys (allFields d) := rfl

/-- `hnores` is what the validation of field names guarantees. -/
theorem keys_allFields (d : Desc) (hnores : ∀ n ∈ d.fields.map (·.2), n ∉ reservedNames) :
    keys (allFields d) = firstOcc (d.fields.map (·.2)) ++ reservedNames := by
  unfold allFields
  rw [keys_foldl_step _ (fun _ _ => rfl), keys_odOfList, keys_reservedFields, firstOcc_nodup_eq _ reservedNames_facts.1,
    show keys (d.fields.map fun f => (f.2, f.1)) = d.fields.map (·.2) from List.map_map]
  congr 1
  apply List.filter_eq_self.mpr
  intro r hr
  simp only [Bool.not_eq_true', List.contains_eq_mem, decide_eq_false_iff_not, mem_firstOcc]
  exact fun hm => hnores r hm hr

end FlowRecord.Descriptor
