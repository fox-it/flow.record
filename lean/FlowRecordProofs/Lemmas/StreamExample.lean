import FlowRecordProofs.Lemmas.StreamCut
/-! Three literal histories on a fresh writer are admissible, for the non-vacuity examples of C01 and C04: `hist`,
    `histG`, `histF` are the proofs of `HistOK` / `HistOKF` for two records of one type, for a grouped record first, and
    for a first write that fails after its descriptor went out. -/
open FlowRecord.Msgpack FlowRecord.Wire FlowRecord.Stream FlowRecord.Utf8

namespace FlowRecord.StreamExample
def d : Desc := { name := [116, 47, 120], fields := [([118], [110])], hash := 7 }
def h : PyStr → List (PyStr × PyStr) → Nat := fun _ _ => 7
def o1 : PV := .record d [.int 5]
def o2 : PV := .record d [.int (-3)]
def g1 : PV := .grouped [103] [.record d [.int 5]]

theorem s1 : strOK [116, 47, 120] := ⟨[116, 47, 120], by decide, by decide, by decide⟩
theorem s2 : strOK [118] := ⟨[118], by decide, by decide, by decide⟩
theorem s3 : strOK [110] := ⟨[110], by decide, by decide, by decide⟩
theorem sg : strOK [103] := ⟨[103], by decide, by decide, by decide⟩

theorem dOK : DescOK d := by
  refine ⟨s1, ?_, by decide, ?_⟩
  · intro p hp
    obtain rfl := List.mem_singleton.mp hp
    exact ⟨s2, s3⟩
  · intro m hm
    cases hm
    decide

/-- the descriptor frames of all three histories -/
theorem dsOK : ∀ d' ∈ [d], DescOK d' ∧ h d'.name d'.fields = d'.hash := by
  intro d' hd'
  obtain rfl := List.mem_singleton.mp hd'
  exact ⟨dOK, rfl⟩

-- the first object registers `d`, the second finds it registered
theorem reg1 : (newDescs [] (descsOf o1)) = ([((d.name, d.hash), d)], [d]) := by decide
theorem reg2 : (newDescs [((d.name, d.hash), d)] (descsOf o2)) = ([((d.name, d.hash), d)], []) := by decide
theorem regG : (newDescs [] (descsOf g1)) = ([((d.name, d.hash), d)], [d]) := by decide

theorem pvInt (v : Int) (hn : nativeInt v = true)
    (hl : (enc (.arr [.int tRecord, .arr [.arr [.str [116, 47, 120], .int 7], .arr [.int v]]])).length < 4294967296) :
    PVOK [((d.name, d.hash), d)] (.record d [.int v]) := by
  refine ⟨s1, by decide, by decide, (by decide : 1 ≤ _), (by decide : 1 < _), ⟨Or.inl hn, trivial⟩, ?_⟩
  intro i vs hi hv
  have e2 : toMList [PV.int v] = some [.int v] := by simp [toMList, toM, hn]
  rw [e2] at hv
  cases hi; cases hv
  exact hl

theorem pv1 : PVOK [((d.name, d.hash), d)] o1 := pvInt 5 (by decide) (by decide)
theorem pv2 : PVOK [((d.name, d.hash), d)] o2 := pvInt (-3) (by decide) (by decide)

theorem pvG : PVOK [((d.name, d.hash), d)] g1 := by
  refine ⟨sg, by decide, ⟨s1, by decide, by decide, by decide, ⟨Or.inl (by decide), trivial⟩, trivial⟩, ?_⟩
  intro n members hn hm
  cases hn; cases hm
  decide

/-- the second write of all three histories: `o2`, its descriptor already registered -/
theorem hist2 : HistOK h [((d.name, d.hash), d)] [o2] := by
  refine ⟨Or.inl ⟨d, _, rfl⟩, ?_, ?_, trivial⟩
  · rw [reg2]; exact nofun
  · rw [reg2]; exact pv2

theorem hist : HistOK h [] [o1, o2] :=
  ⟨Or.inl ⟨d, _, rfl⟩, reg1 ▸ dsOK, reg1 ▸ pv1, reg1 ▸ hist2⟩

theorem written : (writeAll WState.init [o1, o2]).isSome = true := by rfl
example : (writeAll WState.init [o1, o2]).isSome = true := written

theorem histG : HistOK h [] [g1, o2] :=
  ⟨Or.inr ⟨_, _, rfl⟩, regG ▸ dsOK, regG ▸ pvG, regG ▸ hist2⟩

example : (writeAll WState.init [g1, o2]).isSome = true := by rfl

theorem histF : HistOKF h [] [(o1, some 1), (o2, none)] := by
  have e : (descsOf o1).take 1 = descsOf o1 := by decide
  exact ⟨e ▸ reg1 ▸ dsOK, e ▸ reg1 ▸ hist2⟩

example : (writeHist WState.init [(o1, some 1), (o2, none)]).isSome = true := by rfl
example : okObjs [(o1, some 1), (o2, none)] = [o2] := rfl
end FlowRecord.StreamExample
