import FlowRecord.Model.DateTime
/-!
C13 where no text is involved: `DT.Valid` in three parts (`DT.valid_iff`: date, clock, zone), and what replacing the
zone does to validity, offset and instant (`withTz_valid`; `fixedTz` for `fixedView`; `naiveAsUtc`; `rebuildTz`).
-/
namespace FlowRecord.DateTime

/-- a date of the years 1..9999: the first six conjuncts of `DT.Valid` -/
abbrev ValidDate (y m d : Nat) : Prop :=
  1 ≤ y ∧ y ≤ 9999 ∧ 1 ≤ m ∧ m ≤ 12 ∧ 1 ≤ d ∧ d ≤ daysInMonth y m

abbrev ValidClock (h mi s us : Nat) : Prop := h < 24 ∧ mi < 60 ∧ s < 60 ∧ us < 1000000

/-- `DT.Valid` is a conjunction of eleven; this is the one place that goes by their order. Read from right to left it is
    the constructor: `DT.valid_iff.mpr ⟨hdate, hclock, hzone⟩`. -/
theorem DT.valid_iff {t : DT} : t.Valid ↔ ValidDate t.y t.mo t.d ∧ ValidClock t.h t.mi t.s t.us ∧ t.tz.Valid := by
  simp only [DT.Valid, ValidDate, ValidClock, and_assoc]

theorem DT.Valid.date {t : DT} (hv : t.Valid) : ValidDate t.y t.mo t.d := (DT.valid_iff.mp hv).1

theorem DT.Valid.clock {t : DT} (hv : t.Valid) : ValidClock t.h t.mi t.s t.us := (DT.valid_iff.mp hv).2.1

theorem DT.Valid.tz {t : DT} (hv : t.Valid) : t.tz.Valid := (DT.valid_iff.mp hv).2.2

theorem withTz_valid (t : DT) (tz : Tz) (hv : t.Valid) (h : tz.Valid) : DT.Valid { t with tz := tz } :=
  DT.valid_iff.mpr ⟨hv.date, hv.clock, h⟩

theorem parseIso_valid {txt : Text} {a : DT} (h : parseIso txt = some a) : a.Valid := by
  simp only [parseIso, Option.bind_eq_some_iff] at h
  -- whatever the thirteen readers returned, what is left is the validity test at the end
  repeat obtain ⟨_, -, h⟩ := h
  split at h
  · cases h; assumption
  · cases h

theorem normOff_off (o : Int) : (normOff o).off = o := by
  unfold normOff
  split
  · next h => rw [h]; rfl
  · rfl

theorem normOff_aware (o : Int) : normOff o ≠ .naive := by
  unfold normOff
  split <;> exact Tz.noConfusion

/-- the zone of `fixedView t` as a function of `t.tz` alone (`fixedView_eq`; the model has this match inline), to be
    compared with `readTz` -/
def fixedTz : Tz → Tz
  | .naive => .naive
  | tz => normOff tz.off

theorem fixedView_eq (t : DT) : fixedView t = { t with tz := fixedTz t.tz } := by
  unfold fixedView fixedTz
  cases t.tz <;> rfl

theorem fixedView_utc (t : DT) (h : t.tz = .utc) : fixedView t = t := by
  rw [fixedView_eq, h, show fixedTz .utc = .utc from rfl, ← h]

theorem fixedTz_off (tz : Tz) : (fixedTz tz).off = tz.off := by
  cases tz with
  | naive => rfl
  | _ => exact normOff_off _

theorem fixedTz_aware (tz : Tz) (h : tz ≠ .naive) : fixedTz tz ≠ .naive := by
  cases tz with
  | naive => exact absurd rfl h
  | _ => exact normOff_aware _

theorem naiveAsUtc_valid (t : DT) (hv : t.Valid) : (naiveAsUtc t).Valid := by
  unfold naiveAsUtc
  split
  · exact withTz_valid t .utc hv trivial
  · exact hv

theorem naiveAsUtc_of_aware (t : DT) (h : t.tz ≠ .naive) : naiveAsUtc t = t := by
  unfold naiveAsUtc
  split
  · rename_i heq; exact absurd heq h
  · rfl

theorem naiveAsUtc_aware (t : DT) : (naiveAsUtc t).tz ≠ .naive := by
  unfold naiveAsUtc
  split
  · exact Tz.noConfusion
  · assumption

theorem naiveAsUtc_fixedView (t : DT) (h : t.tz ≠ .naive) : naiveAsUtc (fixedView t) = fixedView t := by
  apply naiveAsUtc_of_aware
  rw [fixedView_eq]
  exact fixedTz_aware t.tz h

theorem naiveAsUtc_off (t : DT) : (naiveAsUtc t).tz.off = t.tz.off := by
  unfold naiveAsUtc
  split
  · next h => rw [h]; rfl
  · rfl

theorem naiveAsUtc_instant (t : DT) : instant (naiveAsUtc t) = instant t := by
  unfold instant
  rw [naiveAsUtc_off]
  unfold naiveAsUtc
  split <;> rfl

/-- rebuilding touches `fold` alone, which `Tz.Valid` does not look at: whatever the extracted flag says -/
theorem rebuildTz_valid {tz : Tz} (h : tz.Valid) : (rebuildTz tz).Valid := by
  cases tz <;> exact h

/-- `fold` survives: the extracted flag `Gen.datetimeCtorKeepsFold`, evaluated -/
theorem rebuildTz_eq (tz : Tz) : rebuildTz tz = tz := by
  have hflag : Gen.datetimeCtorKeepsFold = true := by decide
  cases tz <;> simp [rebuildTz, hflag]

end FlowRecord.DateTime
