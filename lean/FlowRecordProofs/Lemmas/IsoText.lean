import FlowRecordProofs.Lemmas.Zone
/-!
ISO text for C13: reading back what was printed, for every valid datetime (`parseIso_toIso_readTz`; the zone comes back
as `readTz` says). For printable offsets `readTz` is the zone of the fixed-offset view (`fixedTz`).
-/
namespace FlowRecord.DateTime

theorem dig_digit (k : Nat) : dig (48 + k % 10) = some (k % 10) := by
  have : k % 10 < 10 := Nat.mod_lt _ (by decide)
  unfold dig
  rw [if_pos (by omega)]
  congr 1; omega

/-- The digit at `k` on top of the digits below it: core's `Nat.mod_mul` from right to left, the sum in the order the
    readers have it. Read from the lowest digit up, this sums the decimal digits the readers collect to
    `n % 10 ^ width`, whatever the width. -/
theorem digit_step (n k b : Nat) : k * (n / k % b) + n % k = n % (k * b) := by
  rw [Nat.mod_mul, Nat.add_comm]

theorem rd2_d2 (n : Nat) (h : n < 100) (r : Text) : rd2 (d2 n ++ r) = some (n, r) := by
  simp only [d2, rd2, List.cons_append, List.nil_append, dig_digit, digit_step, Nat.reduceMul, Nat.mod_eq_of_lt h]

theorem rd4_d4 (n : Nat) (h : n < 10000) (r : Text) : rd4 (d4 n ++ r) = some (n, r) := by
  simp only [d4, rd4, List.cons_append, List.nil_append, dig_digit, Nat.add_assoc, digit_step, Nat.reduceMul,
    Nat.mod_eq_of_lt h]

theorem rd6_d6 (n : Nat) (h : n < 1000000) (r : Text) : rd6 (d6 n ++ r) = some (n, r) := by
  simp only [d6, rd6, List.cons_append, List.nil_append, dig_digit, Nat.add_assoc, digit_step, Nat.reduceMul,
    Nat.mod_eq_of_lt h]

/-- The fraction is read back when what follows does not itself start with a `.`. -/
theorem rdFrac_frac (us : Nat) (h : us < 1000000) (r : Text) (hr : r.head? ≠ some 46) :
    rdFrac (frac us ++ r) = some (us, r) := by
  unfold frac
  by_cases h0 : us = 0
  · subst h0
    simp only [if_true, List.nil_append]
    cases r with
    | nil => rfl
    | cons x t => simp only [rdFrac, if_neg fun e => hr (congrArg some e)]
  · simp only [if_neg h0, List.cons_append, rdFrac, if_true]
    exact rd6_d6 us h r

theorem fmtOffset_head (o : Int) : (fmtOffset o).head? ≠ some 46 := by
  rw [fmtOffset, List.head?_cons]
  split <;> decide

theorem fmtTz_head (tz : Tz) : (fmtTz tz).head? ≠ some 46 := by
  cases tz with
  | naive => nofun
  | _ => exact fmtOffset_head _

theorem parseTzSec_tail (a : Nat) :
    parseTzSec (if a % 60000000 = 0 then [] else 58 :: (d2 (a / 1000000 % 60) ++ frac (a % 1000000)))
      = some (a / 1000000 % 60, a % 1000000) := by
  by_cases h0 : a % 60000000 = 0
  · simp only [if_pos h0, parseTzSec]
    congr 2 <;> omega
  · simp only [if_neg h0, parseTzSec, if_true]
    rw [rd2_d2 _ (by omega)]
    have := rdFrac_frac (a % 1000000) (by omega) [] nofun
    rw [List.append_nil] at this
    simp only [Option.bind_some, this]

theorem parseTz_signed (c a : Nat) (hc : c = 43 ∨ c = 45) (ha : a < 86400000000) :
    parseTz (c :: (d2 (a / 3600000000) ++ 58 :: (d2 (a / 60000000 % 60) ++
      (if a % 60000000 = 0 then [] else 58 :: (d2 (a / 1000000 % 60) ++ frac (a % 1000000)))))) =
    some (if a < 1000000 then .utc else .fixed (if c = 45 then -(a : Int) else a)) := by
  have hsecs : a / 3600000000 * 3600 + a / 60000000 % 60 * 60 + a / 1000000 % 60 = a / 1000000 := by omega
  simp only [parseTz, hc, if_true, rd2_d2 _ (show a / 3600000000 < 100 by omega),
    rd2_d2 _ (show a / 60000000 % 60 < 100 by omega), Option.bind_some, lit, parseTzSec_tail, hsecs,
    Nat.div_add_mod', Nat.div_eq_zero_iff_lt (show 0 < 1000000 by decide), ha]
  split <;> rfl

theorem parseTz_fmtOffset (o : Int) (h : OffInRange o) :
    parseTz (fmtOffset o) = some (if o.natAbs < 1000000 then .utc else .fixed o) := by
  unfold fmtOffset
  rw [parseTz_signed _ _ (by split <;> decide) (by have := h.1; have := h.2; omega)]
  have : (if (if o < 0 then 45 else 43) = 45 then -(o.natAbs : Int) else o.natAbs) = o := by split <;> omega
  rw [this]

theorem Tz.off_inRange (tz : Tz) (hv : tz.Valid) : OffInRange tz.off := by
  cases tz with
  | fixed o => exact hv.2
  | zone a b f =>
    cases f
    · exact hv.1
    · exact hv.2
  | _ => exact ⟨by decide, by decide⟩

/-- The `tzinfo` read back from what was printed for `tz`: a fixed offset, UTC when its `HH:MM:SS` part is zero. -/
def readTz : Tz → Tz
  | .naive => .naive
  | tz => if tz.off.natAbs < 1000000 then .utc else .fixed tz.off

theorem parseTz_fmtTz (tz : Tz) (hv : tz.Valid) : parseTz (fmtTz tz) = some (readTz tz) := by
  cases tz with
  | naive => rfl
  | _ => exact parseTz_fmtOffset _ (Tz.off_inRange _ hv)

theorem readTz_valid (tz : Tz) (hv : tz.Valid) : (readTz tz).Valid := by
  have key : ∀ o : Int, OffInRange o → Tz.Valid (if o.natAbs < 1000000 then .utc else .fixed o) := by
    intro o ho
    split
    · trivial
    · exact ⟨by omega, ho⟩
  cases tz with
  | naive => trivial
  | _ => exact key _ (Tz.off_inRange _ hv)

theorem parseIso_toIso_readTz (t : DT) (hv : t.Valid) : parseIso (toIso t) = some { t with tz := readTz t.tz } := by
  have hd := hv.date
  obtain ⟨hh, hmi, hs, hus⟩ := hv.clock
  have hdm : t.d < 100 := by
    have : daysInMonth t.y t.mo ≤ 31 := by unfold daysInMonth; split <;> split <;> omega
    omega
  simp only [toIso, parseIso, rd4_d4 _ (show t.y < 10000 by omega), rd2_d2 _ (show t.mo < 100 by omega), rd2_d2 _ hdm,
    rd2_d2 _ (show t.h < 100 by omega), rd2_d2 _ (show t.mi < 100 by omega), rd2_d2 _ (show t.s < 100 by omega),
    rdFrac_frac _ hus _ (fmtTz_head t.tz), parseTz_fmtTz t.tz hv.tz, Option.bind_some, lit, if_true]
  rw [if_pos (withTz_valid t _ hv (readTz_valid t.tz hv.tz))]

theorem readTz_printable (tz : Tz) (hp : tz.off = 0 ∨ 1000000 ≤ tz.off.natAbs) : readTz tz = fixedTz tz := by
  have key : ∀ o : Int, (o = 0 ∨ 1000000 ≤ o.natAbs) → (if o.natAbs < 1000000 then Tz.utc else .fixed o) = normOff o := by
    intro o hp
    unfold normOff
    split <;> split <;> first | rfl | omega
  cases tz with
  | naive => rfl
  | _ => exact key _ hp

theorem parseIso_toIso (t : DT) (hv : t.Valid) (hp : OffsetPrintable t) :
    parseIso (toIso t) = some (fixedView t) := by
  rw [parseIso_toIso_readTz t hv, readTz_printable t.tz hp, fixedView_eq]

/-- `isoformat()` out, the field constructor in: what JSON, SQLite and the binary stream (for non-UTC values) do. -/
theorem construct_toIso (t : DT) (hv : t.Valid) (haw : t.tz ≠ .naive) (hp : OffsetPrintable t) :
    construct (.iso (toIso t)) = some (fixedView t) := by
  rw [construct, parseIso_toIso t hv hp, Option.map_some, naiveAsUtc_fixedView t haw]

end FlowRecord.DateTime
