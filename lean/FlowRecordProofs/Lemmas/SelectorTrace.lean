import FlowRecordProofs.Lemmas.SelectorEval
/-!
Safety of the instrumented interpreter (C09). `Logged P ev`: the events `_eval` can log, each with the test the code
makes before it. An `Invariant` is a predicate on the state that ignores the generator-variable namespace and survives
logging a `Logged` event; `pres_interp`: evaluation of any expression, by any primitives, keeps every invariant.
-/
namespace FlowRecord.Selector

inductive Logged (P : Prim) : Event → Prop
  | builtin {n} : allowedCalls.contains n = true → Logged P (.call (.builtin n))
  | ctor {w v} : Gen.WHITELIST.contains w = true → rResolve P (.ftype "") (splitDot w) = .ok v → Logged P (.call v)
  | getattr {obj a} : hasPrefix "__" a = false → Logged P (.getattr obj a)
  | fallback {id} : hasPrefix "__" id = false → Logged P (.fallback id)
  | modattr {w part} (obj) : Gen.WHITELIST.contains w = true → part ∈ splitDot w → Logged P (.modattr obj part)

structure Invariant (P : Prim) where
  inv : St → Prop
  ns_irrel : ∀ (s : St) (ns : List (String × PVal)), inv s → inv { s with ns := ns }
  log_ok : ∀ (s : St) (ev : Event), inv s → Logged P ev → inv { s with trace := s.trace ++ [ev] }

variable {P : Prim} {I : Invariant P} {self : Expr → M PVal} {α β : Type}

/-- `m` keeps the invariant, and every value it returns satisfies `Q`. -/
def Pres (I : Invariant P) (m : M α) (Q : α → Prop) : Prop :=
  ∀ st, I.inv st → I.inv (m st).1 ∧ ∀ a, (m st).2 = .ok a → Q a

abbrev Keeps (I : Invariant P) (m : M α) : Prop := Pres I m fun _ => True

theorem Pres.weaken {m : M α} {Q Q' : α → Prop} (h : Pres I m Q) (hq : ∀ a, Q a → Q' a) : Pres I m Q' :=
  fun st hst => ⟨(h st hst).1, fun a ha => hq a ((h st hst).2 a ha)⟩

theorem pres_quiet {m : M α} {Q : α → Prop} (hm : ∀ st, ∃ ns, (m st).1 = { st with ns := ns })
    (hq : ∀ st a, (m st).2 = .ok a → Q a) : Pres I m Q := fun st hst => by
  obtain ⟨ns, h⟩ := hm st
  exact ⟨h ▸ I.ns_irrel st ns hst, hq st⟩

theorem pres_pure (a : α) {Q : α → Prop} (hq : Q a) : Pres I (pure a) Q :=
  pres_quiet (fun st => ⟨st.ns, rfl⟩) (fun _ _ h => by cases h; exact hq)

theorem pres_throw (e : Err) {Q : α → Prop} : Pres I (M.throw e) Q :=
  pres_quiet (fun st => ⟨st.ns, rfl⟩) (fun _ _ h => nomatch h)

theorem pres_lift (r : Except Err α) {Q : α → Prop} (hq : ∀ a, r = .ok a → Q a) : Pres I (M.lift r) Q :=
  pres_quiet (fun st => ⟨st.ns, rfl⟩) (fun _ => hq)

theorem pres_setVar (x : String) (v : PVal) : Keeps I (M.setVar x v) :=
  pres_quiet (fun _ => ⟨_, rfl⟩) (fun _ _ _ => trivial)

theorem pres_log (ev : Event) (h : Logged P ev) : Keeps I (M.log ev) :=
  fun st hst => ⟨I.log_ok st ev hst h, fun _ _ => trivial⟩

theorem pres_bind {m : M α} {f : α → M β} {Q : α → Prop} {R : β → Prop}
    (hm : Pres I m Q) (hf : ∀ a, Q a → Pres I (f a) R) : Pres I (m >>= f) R := by
  intro st hst
  obtain ⟨h1, h2⟩ := hm st hst
  cases h : (m st).2 with
  | error e => rw [M.bind_of_snd_error h]; exact ⟨h1, fun _ h => nomatch h⟩
  | ok a => rw [M.bind_of_snd_ok h]; exact hf a (h2 a h) _ h1

theorem pres_then {m : M α} {f : α → M β} {R : β → Prop}
    (hm : Keeps I m) (hf : ∀ a, Pres I (f a) R) : Pres I (m >>= f) R :=
  pres_bind hm (fun a _ => hf a)

theorem pres_finally {m : M α} {Q : α → Prop} (xs : List String) (hm : Pres I m Q) :
    Pres I (M.finally_ m fun s => s.popAll xs) Q :=
  fun st hst => ⟨I.ns_irrel _ _ (hm st hst).1, (hm st hst).2⟩

theorem pres_ite {c : Prop} [Decidable c] {m1 m2 : M α} {Q : α → Prop} (h1 : Pres I m1 Q) (h2 : Pres I m2 Q) :
    Pres I (if c then m1 else m2) Q := by
  split <;> assumption

/-- The induction hypothesis on the recursive knot. -/
def SelfOK (I : Invariant P) (self : Expr → M PVal) : Prop := ∀ e, Keeps I (self e)

theorem pres_evalList (hs : SelfOK I self) (es : List Expr) : Keeps I (evalList self es) := by
  induction es with
  | nil => exact pres_pure _ trivial
  | cons e es ih => exact pres_then (hs e) fun _ => pres_then ih fun _ => pres_pure _ trivial

theorem pres_evalKwargs (hs : SelfOK I self) (es : List (String × Expr)) :
    Keeps I (evalKwargs self es) := by
  induction es with
  | nil => exact pres_pure _ trivial
  | cons e es ih => exact pres_then (hs e.2) fun _ => pres_then ih fun _ => pres_pure _ trivial

theorem pres_evalBool (hs : SelfOK I self) (stopOn : Bool) (es : List Expr) (last : PVal) :
    Keeps I (evalBool P self stopOn es last) := by
  induction es generalizing last with
  | nil => exact pres_pure _ trivial
  | cons e es ih =>
    intro st hst
    have h1 := (hs e st hst).1
    rw [evalBool_cons]
    split
    · split
      · exact ⟨h1, fun _ _ => trivial⟩
      · exact ih _ _ h1
    · split
      · exact ⟨h1, fun _ _ => trivial⟩
      · exact ih _ _ h1
    · exact ⟨h1, fun _ _ => trivial⟩

theorem pres_linkCompare (op : String) (l r : PVal) : Keeps I (linkCompare P op l r) :=
  pres_quiet (fun st => ⟨st.ns, linkCompare_fst op l r st⟩) (fun _ _ _ => trivial)

theorem pres_evalChain (hs : SelfOK I self) (rest : List (String × Expr)) (left result : PVal) :
    Keeps I (evalChain P self left rest result) := by
  induction rest generalizing left result with
  | nil => exact pres_pure _ trivial
  | cons oc rest ih =>
    exact pres_then (hs oc.2) fun right => pres_then (pres_linkCompare oc.1 left right) fun res =>
      pres_ite (pres_pure _ trivial) (ih right res)

theorem pres_evalIfs (hs : SelfOK I self) (cs : List Expr) : Keeps I (evalIfs P self cs) := by
  induction cs with
  | nil => exact pres_pure _ trivial
  | cons c cs ih => exact pres_then (hs c) fun _ => pres_ite ih (pres_pure _ trivial)

theorem pres_forVals {body : PVal → M (Option Bool)} (hb : ∀ v, Keeps I (body v)) (vals : List PVal) :
    Keeps I (forVals body vals) := by
  induction vals with
  | nil => exact pres_pure _ trivial
  | cons v vs ih =>
    refine pres_then (hb v) fun r => ?_
    cases r
    · exact ih
    · exact pres_pure _ trivial

theorem pres_loopGens (hs : SelfOK I self) (c : Consumer) (elt : Expr) (gens : List Comp) :
    Keeps I (loopGens P self c elt gens) := by
  induction gens with
  | nil => exact pres_then (hs elt) fun _ => pres_pure _ trivial
  | cons g rest ih =>
    refine pres_then (hs g.2.1) fun itv => pres_ite (pres_pure _ trivial) ?_
    refine pres_then (pres_lift _ fun _ _ => trivial) fun vals => pres_forVals (fun val => ?_) vals
    exact pres_then (pres_setVar _ val) fun _ =>
      pres_then (pres_evalIfs hs g.2.2) fun _ => pres_ite ih (pres_pure _ trivial)

theorem pres_runGenexp (hs : SelfOK I self) (c : Consumer) (elt : Expr) (gens : List Comp) :
    Keeps I (runGenexp P self c elt gens) := by
  intro st hst
  unfold runGenexp
  split
  · exact ⟨hst, fun _ _ => trivial⟩
  · split
    · exact ⟨hst, fun _ _ => trivial⟩
    · exact pres_finally _ (pres_then (pres_loopGens hs c elt gens) fun _ => pres_pure _ trivial) st hst

theorem pres_resolveWhitelisted (parts : List String) (hp : ∀ p ∈ parts, ∀ obj, Logged P (.modattr obj p)) (obj : PVal) :
    Pres I (resolveWhitelisted P obj parts) (fun v => rResolve P obj parts = .ok v) := by
  induction parts generalizing obj with
  | nil => exact pres_pure _ rfl
  | cons p ps ih =>
    refine pres_then (pres_log _ (hp p (by simp) obj)) fun _ => pres_bind (pres_lift _ fun _ h => h) fun nxt hn => ?_
    exact (ih (fun q hq => hp q (by simp [hq])) nxt).weaken fun v hv => by rw [rResolve_cons, hn]; exact hv

theorem pres_evalCall (hs : SelfOK I self) (func : Expr) (args : List Expr) (kwargs : List (String × Expr)) :
    Keeps I (evalCall P self func args kwargs) := by
  have call : ∀ f, Logged P (.call f) → Keeps I (do
      let a ← evalList self args
      let k ← evalKwargs self kwargs
      M.log (.call f)
      M.lift (P.call f a k)) := fun f hf =>
    pres_then (pres_evalList hs args) fun _ => pres_then (pres_evalKwargs hs kwargs) fun _ =>
      pres_then (pres_log _ hf) fun _ => pres_lift _ fun _ _ => trivial
  -- the leaves of `evalCall`, in source order
  refine evalCall.fun_cases_unfolding P self func args kwargs (motive := (Keeps I ·))
    ?notNameOrAttr ?noPath ?genexp ?allowed ?whitelisted ?refused
  case notNameOrAttr | noPath | refused => intros; exact pres_throw _
  case genexp =>
    intro _ fname _ ha _ _ _ _
    exact pres_then (pres_log _ (.builtin ha)) fun _ => pres_runGenexp hs _ _ _
  case allowed =>
    intro _ fname _ ha _
    exact call _ (.builtin ha)
  case whitelisted =>
    intro _ fname _ _ hw
    exact pres_bind (pres_resolveWhitelisted _ (fun p hp obj => .modattr obj hw hp) _) fun f hf => call f (.ctor hw hf)

theorem pres_evalStep (hs : SelfOK I self) (e : Expr) : Keeps I (evalStep P self e) := by
  cases e with
  | const c => rw [evalStep_const]; exact pres_pure _ trivial
  | list es => rw [evalStep_list]; exact pres_then (pres_evalList hs es) fun _ => pres_pure _ trivial
  | tuple es => rw [evalStep_tuple]; exact pres_then (pres_evalList hs es) fun _ => pres_pure _ trivial
  | name id =>
    rw [evalStep_name]
    intro st hst
    dsimp only
    split
    · exact ⟨hst, fun _ _ => trivial⟩
    · split
      · exact ⟨hst, fun _ _ => trivial⟩
      · next hd =>
        exact pres_then (pres_log _ (.fallback (by simpa using hd))) (fun _ => pres_lift _ fun _ _ => trivial) st hst
  | attr v a =>
    rw [evalStep_attr]
    split
    · exact pres_throw _
    · next hd =>
      exact pres_then (hs v) fun obj => pres_then (pres_log _ (.getattr (by simpa using hd))) fun _ => pres_pure _ trivial
  | boolop op vs => rw [evalStep_boolop]; exact pres_evalBool hs _ vs _
  | binop op l r =>
    rw [evalStep_binop]
    refine pres_then (hs l) fun lv => pres_then (hs r) fun rv => pres_ite (pres_pure _ trivial) ?_
    split
    · exact pres_lift _ fun _ _ => trivial
    · exact pres_throw _
  | unary op x =>
    rw [evalStep_unary]
    split
    · exact pres_throw _
    · exact pres_ite (pres_then (hs x) fun _ => pres_pure _ trivial) (pres_then (hs x) fun _ => pres_throw _)
  | compare l rest => rw [evalStep_compare]; exact pres_then (hs l) fun lv => pres_evalChain hs rest lv _
  | call f args kwargs => rw [evalStep_call]; exact pres_evalCall hs f args kwargs
  | genexp elt gens => rw [evalStep_genexp]; exact pres_pure _ trivial
  | other k => rw [evalStep_other]; exact pres_throw _

theorem pres_interp (I : Invariant P) (fuel : Nat) : SelfOK I (interp P fuel) := by
  induction fuel with
  | zero => intro e; exact pres_throw _
  | succ n ih => intro e; exact pres_evalStep ih e

end FlowRecord.Selector
