import FlowRecord.Model.Json
import FlowRecordProofs.Lemmas.IsoText
import FlowRecordProofs.Lemmas.Base64
/-!
C14: what the JSON reader makes of what the writer wrote, level by level (value, field, object, line, stream), each
level using the one below through its statement. The written object is a `zip` of slots and values mapped
(`encFields_eq`), so its keys, its lookups and what the constructor makes of it are facts about association lists.
-/
namespace FlowRecord.Json
open FlowRecord.DateTime (Text)

/-- A scalar value of scalar type `st` inside the property's domain. -/
def SVOk (L : LibLaws) : ST → SV → Prop
  | .text, .str _ => True
  | .int lo hi, .int i => inRange lo hi i = true
  | .float, .float _ => True
  | .boolean, .bool _ => True
  | .datetime, .dt t => t.Valid ∧ t.tz ≠ .naive ∧ DateTime.OffsetPrintable t
  | .bytes, .bytes _ => True
  | .digest, .digest m s h => hexOk 16 m = true ∧ hexOk 20 s = true ∧ hexOk 32 h = true
  | .ip, .ip t => L.ipNorm t = some t
  | .net, .net t => L.netNorm t = some t
  | .path, .path t => L.pathNorm t = some t
  | _, _ => False

/-- An unset scalar is `none`; digest and list fields are never `none` in a record (their default is an empty digest /
    an empty list) unless the record class uses the keyword-tolerant constructor (`kw`), which keeps `None`. -/
def FieldOk (L : LibLaws) (kw : Bool) (ty : Text) (v : FV) : Prop :=
  ∃ st isList, parseType ty = some (st, isList) ∧ (st = .bytes → ty ∈ b64Types) ∧
    match v with
    | .none => kw = true ∨ (isList = false ∧ st ≠ .digest)
    | .one sv => isList = false ∧ SVOk L st sv
    | .list xs => isList = true ∧ ∀ x ∈ xs, SVOk L st x

theorem fieldOk_none (L : LibLaws) (kw : Bool) {ty : Text} {st : ST} (h1 : parseType ty = some (st, false))
    (h2 : st = .bytes → ty ∈ b64Types) (h3 : st ≠ .digest) : FieldOk L kw ty .none :=
  ⟨st, false, h1, h2, Or.inr ⟨rfl, h3⟩⟩

theorem fieldOk_one (L : LibLaws) (kw : Bool) {ty : Text} {st : ST} {sv : SV} (h1 : parseType ty = some (st, false))
    (h2 : st = .bytes → ty ∈ b64Types) (h3 : SVOk L st sv) : FieldOk L kw ty (.one sv) := ⟨st, false, h1, h2, rfl, h3⟩

theorem fieldOk_list (L : LibLaws) (kw : Bool) {ty : Text} {st : ST} {xs : List SV} (h1 : parseType ty = some (st, true))
    (h2 : st = .bytes → ty ∈ b64Types) (h3 : ∀ x ∈ xs, SVOk L st x) : FieldOk L kw ty (.list xs) :=
  ⟨st, true, h1, h2, rfl, h3⟩

structure WellTyped (L : LibLaws) (r : Rec) : Prop where
  len : r.vals.length = (allFields r.desc).length
  fields : ∀ p ∈ (allFields r.desc).zip r.vals, FieldOk L (kwInit r.desc) p.1.1 p.2
  nodup : (slotNames r.desc).Nodup
  noMarker : kType ∉ slotNames r.desc ∧ kIdent ∉ slotNames r.desc
  reserved : ∃ pre src cls g, r.vals = pre ++ [src, cls, .one (.dt g), .one (.int Gen.RECORD_VERSION)]

theorem reservedFields_eq : reservedFields = [(cps "string", cps "_source"), (cps "string", cps "_classification"),
    (cps "datetime", cps "_generated"), (cps "varint", cps "_version")] := rfl

theorem getStrOrNull_optStr (m : Option Text) : getStrOrNull (optStr m) = some m := by cases m <;> rfl

theorem decElem_encElem (L : LibLaws) {st : ST} {b64 : Bool} {v : SV} (h : SVOk L st v)
    (hb : st = .bytes → b64 = true) : decElem L st b64 (encElem v) = .ok (canonSV v) := by
  -- along the clauses of `SVOk`, named by their types, each with its condition as hypothesis; `mismatch` is every other
  -- pair of type and value, where the condition is `False`
  refine SVOk.fun_cases_unfolding L (motive := fun st v ok => ok → (st = .bytes → b64 = true) →
      decElem L st b64 (encElem v) = .ok (canonSV v))
    ?text ?int ?float ?boolean ?datetime ?bytes ?digest ?ip ?net ?path ?mismatch st v h hb
  case text | float => intros; rfl
  case int | ip | net | path => intros; rename_i h _; simp only [encElem, decElem, h, if_true, canonSV]
  case boolean => intro b _ _; cases b <;> simp [encElem, decElem, canonSV, Gen.booleanMin, Gen.booleanMax]
  case datetime => intro t h _; simp only [encElem, decElem, DateTime.construct_toIso t h.1 h.2.1 h.2.2, canonSV]
  case bytes => intro b _ hb; simp only [encElem, decElem, hb rfl, if_true, Base64.b64dec_b64enc, canonSV]
  case digest =>
    intro m s1 s2 h _
    have n : cps "md5" ≠ cps "sha1" ∧ cps "md5" ≠ cps "sha256" ∧ cps "sha1" ≠ cps "sha256" := by decide +kernel
    simp only [encElem, decElem, lookupT, n, if_true, if_false, Option.bind_some, getStrOrNull_optStr, h, Bool.and_self,
      canonSV]
  case mismatch => intros; contradiction

theorem decElems_map (L : LibLaws) {st : ST} {b64 : Bool} {xs : List SV} (h : ∀ x ∈ xs, SVOk L st x)
    (hb : st = .bytes → b64 = true) : decElems L st b64 (xs.map encElem) = .ok (xs.map canonSV) := by
  induction xs with
  | nil => rfl
  | cons x xs ih =>
    have hx := decElem_encElem L (h x (List.mem_cons_self ..)) hb
    have hxs := ih (fun y hy => h y (List.mem_cons_of_mem _ hy))
    simp only [List.map_cons, decElems, hx, hxs]

theorem encElem_ne_null (v : SV) : encElem v ≠ .null := by
  cases v <;> simp [encElem]

theorem decField_scalar (L : LibLaws) (kw : Bool) {ty : Text} {st : ST} {v : JVal} (h : parseType ty = some (st, false))
    (hv : v ≠ .null) : decField L kw ty (some v) = (decElem L st (decide (ty ∈ b64Types)) v).map FV.one := by
  cases v <;> first | exact absurd rfl hv | simp only [decField, h, Bool.false_eq_true, if_false]

/-- A scalar in top-level position: only a `boolean` is written otherwise than as a list element (as a JSON bool, not
    as `1`/`0`), and the reader's coercion takes both forms. -/
theorem decElem_encField_one (L : LibLaws) {st : ST} {b64 : Bool} (ty : Text) {v : SV} (h : SVOk L st v)
    (hb : st = .bytes → b64 = true) :
    encField ty (.one v) ≠ .null ∧ decElem L st b64 (encField ty (.one v)) = .ok (canonSV v) := by
  have hv : encElem v ≠ .null ∧ _ := ⟨encElem_ne_null v, decElem_encElem L h hb⟩
  cases v <;> try exact hv
  case bool b =>
    simp only [encField]
    split
    · cases st <;> first | exact ⟨nofun, rfl⟩ | exact False.elim h
    · exact hv

theorem decField_encField (L : LibLaws) {kw : Bool} {ty : Text} {v : FV} (h : FieldOk L kw ty v) :
    decField L kw ty (some (encField ty v)) = .ok (canonFV v) := by
  obtain ⟨st, isList, hpt, hb, hv⟩ := h
  have hb' : st = .bytes → decide (ty ∈ b64Types) = true := fun e => decide_eq_true (hb e)
  cases v with
  | none =>
    -- `null` is read as the type's default, which is `none` for these types
    rcases hv with rfl | ⟨rfl, hd⟩
    · simp only [decField, hpt, encField, if_true, canonFV]
    · simp only [decField, hpt, encField, Bool.false_eq_true, if_false, if_neg hd, ite_self, canonFV]
  | list xs =>
    obtain ⟨rfl, hxs⟩ := hv
    simp only [decField, hpt, encField, if_true, decElems_map L hxs hb', Except.map, canonFV]
  | one sv =>
    obtain ⟨rfl, hsv⟩ := hv
    obtain ⟨hn, hd⟩ := decElem_encField_one L ty hsv hb'
    rw [decField_scalar L kw hpt hn, hd]
    rfl

/-! The JSON model's own lookup `lookupT` is a different function from `Descriptor.alGet` of `Lemmas/Assoc.lean`. -/

/-- `objKeys (.obj kvs)` is `keysOf kvs` by definition -/
def keysOf (kvs : List (Text × JVal)) : List Text := kvs.map (·.1)

theorem lookupT_append_of_not_mem {k : Text} {xs : List (Text × JVal)} (ys : List (Text × JVal)) (h : k ∉ keysOf xs) :
    lookupT k (xs ++ ys) = lookupT k ys := by
  induction xs with
  | nil => rfl
  | cons p xs ih =>
    rw [List.cons_append, lookupT, if_neg (List.ne_of_not_mem_cons h).symm, ih (List.not_mem_of_not_mem_cons h)]

theorem lookupT_of_mem {kvs : List (Text × JVal)} (hnd : (keysOf kvs).Nodup) {k : Text} {v : JVal} (h : (k, v) ∈ kvs) :
    lookupT k kvs = some v := by
  induction kvs with
  | nil => cases h
  | cons p kvs ih =>
    obtain ⟨hp, hnd⟩ := List.nodup_cons.mp hnd
    rw [lookupT]
    rcases List.mem_cons.mp h with rfl | h'
    · rw [if_pos rfl]
    · rw [if_neg (fun e => hp (List.mem_map.mpr ⟨_, h', e.symm⟩)), ih hnd h']

theorem filter_keys_append (q : Text → Bool) {xs ys : List (Text × JVal)} (hx : ∀ k ∈ keysOf xs, q k = true)
    (hy : ∀ k ∈ keysOf ys, q k = false) : (xs ++ ys).filter (fun p => q p.1) = xs := by
  rw [List.filter_append, List.filter_eq_self.mpr fun p hp => hx p.1 (List.mem_map_of_mem hp),
    List.filter_eq_nil_iff.mpr fun p hp => by simp [hy p.1 (List.mem_map_of_mem hp)], List.append_nil]

theorem dropKeys_append {ks : List Text} {xs ys : List (Text × JVal)}
    (hx : ∀ k ∈ ks, k ∉ keysOf xs) (hy : ∀ k ∈ keysOf ys, k ∈ ks) : dropKeys ks (xs ++ ys) = xs :=
  filter_keys_append (fun k => !ks.contains k) (fun k hk => by simpa using fun hm => hx k hm hk)
    (fun k hk => by simpa using hy k hk)

theorem encFields_eq (fs : List (Text × Text)) (vs : List FV) :
    encFields fs vs = (fs.zip vs).map fun p => (p.1.2, encField p.1.1 p.2) := by
  fun_induction encFields fs vs with
  | case1 ty nm fs v vs ih => rw [List.zip_cons_cons, List.map_cons, ih]
  | case2 fs vs h => cases fs <;> cases vs <;> first | rfl | exact (h _ _ _ _ _ rfl rfl).elim

theorem keys_encFields {fs : List (Text × Text)} {vs : List FV} (h : fs.length = vs.length) :
    keysOf (encFields fs vs) = fs.map (·.2) :=
  calc keysOf (encFields fs vs) = ((fs.zip vs).map Prod.fst).map (·.2) := by
        rw [encFields_eq, keysOf, List.map_map, List.map_map]; rfl
    _ = fs.map (·.2) := by rw [List.map_fst_zip (Nat.le_of_eq h)]

theorem encFields_append {f1 : List (Text × Text)} (f2 : List (Text × Text)) {v1 : List FV} (v2 : List FV)
    (h : f1.length = v1.length) :
    encFields (f1 ++ f2) (v1 ++ v2) = encFields f1 v1 ++ encFields f2 v2 := by
  rw [encFields_eq, encFields_eq, encFields_eq, List.zip_append h, List.map_append]

theorem lookup_encFields {fs : List (Text × Text)} {vs : List FV} (hlen : fs.length = vs.length)
    (hnd : (fs.map (·.2)).Nodup) {ty nm : Text} {v : FV} (h : ((ty, nm), v) ∈ fs.zip vs) :
    lookupT nm (encFields fs vs) = some (encField ty v) := by
  apply lookupT_of_mem (by rwa [keys_encFields hlen])
  rw [encFields_eq]
  exact List.mem_map_of_mem h

/-- the values of the reserved slots, in the order of `reservedFields`: the tail that `WellTyped.reserved` asks for -/
abbrev reservedVals (src cls : FV) (g : DateTime.DT) : List FV :=
  [src, cls, .one (.dt g), .one (.int Gen.RECORD_VERSION)]

section reserved
variable {L : LibLaws} {r : Rec} {pre : List FV} {src cls : FV} {g : DateTime.DT}

theorem WellTyped.pre_length (h : WellTyped L r) (hv : r.vals = pre ++ reservedVals src cls g) :
    pre.length = r.desc.fields.length := by
  have hlen := h.len
  rw [hv] at hlen
  simp only [allFields, reservedFields_eq, List.length_append, List.length_cons, List.length_nil] at hlen
  omega

theorem WellTyped.reserved_lookups (h : WellTyped L r) (hv : r.vals = pre ++ reservedVals src cls g) :
    lookupT (cps "_source") (encFields (allFields r.desc) r.vals) = some (encField (cps "string") src) ∧
    lookupT (cps "_classification") (encFields (allFields r.desc) r.vals) = some (encField (cps "string") cls) ∧
    lookupT (cps "_generated") (encFields (allFields r.desc) r.vals) = some (.str (DateTime.toIso g)) := by
  -- a reserved slot with its value is among the last four pairs of the zip
  have hlook : ∀ ty nm v, ((ty, nm), v) ∈ reservedFields.zip (reservedVals src cls g) →
      lookupT nm (encFields (allFields r.desc) r.vals) = some (encField ty v) := fun ty nm v hp =>
    lookup_encFields h.len.symm h.nodup <| by
      rw [hv, allFields, List.zip_append (h.pre_length hv).symm]
      exact List.mem_append_right _ hp
  exact ⟨hlook _ _ src (by simp [reservedFields_eq]), hlook _ _ cls (by simp [reservedFields_eq]),
    hlook (cps "datetime") _ (.one (.dt g)) (by simp [reservedFields_eq])⟩
end reserved

/-- `ps` pairs every slot with the value that its key is to yield, up to `g`. -/
theorem decSlots_ok (L : LibLaws) (kw : Bool) (kvs : List (Text × JVal)) (ps : List ((Text × Text) × FV)) (g : FV → FV)
    (h : ∀ p ∈ ps, decField L kw p.1.1 (lookupT p.1.2 kvs) = .ok (g p.2)) :
    decSlots L kw kvs (ps.map (·.1)) = .ok ((ps.map (·.2)).map g) := by
  induction ps with
  | nil => rfl
  | cons p ps ih =>
    simp only [List.map_cons, decSlots, h p (List.mem_cons_self ..), ih fun q hq => h q (List.mem_cons_of_mem _ hq)]

theorem construct_encFields (L : LibLaws) {r : Rec} (h : WellTyped L r) :
    construct L r.desc (encFields (allFields r.desc) r.vals) = .ok (canonRec r) := by
  obtain ⟨pre, src, cls, g, hv⟩ := h.reserved
  obtain ⟨-, -, hg⟩ := h.reserved_lookups hv
  have hkeys : keysOf (encFields (allFields r.desc) r.vals) = slotNames r.desc := keys_encFields h.len.symm
  have hall : (encFields (allFields r.desc) r.vals).all (fun p => (slotNames r.desc).contains p.1) = true :=
    List.all_eq_true.mpr fun p hp => List.contains_iff_mem.mpr (hkeys ▸ List.mem_map_of_mem hp)
  have hdec := decSlots_ok L (kwInit r.desc) (encFields (allFields r.desc) r.vals) ((allFields r.desc).zip r.vals) canonFV
    fun p hp => by rw [lookup_encFields h.len.symm h.nodup hp]; exact decField_encField L (h.fields p hp)
  rw [List.map_fst_zip (Nat.le_of_eq h.len.symm), List.map_snd_zip (Nat.le_of_eq h.len)] at hdec
  simp only [construct, hall, if_true, hdec, hg]
  unfold canonRec
  congr 2
  rw [hv]
  simp [canonFV, canonSV]

theorem mapM_map_eq_some {α β : Type} {f : β → Option α} {g : α → β} {xs : List α} (h : ∀ x ∈ xs, f (g x) = some x) :
    (xs.map g).mapM f = some xs := by
  induction xs with
  | nil => rfl
  | cons x xs ih =>
    obtain ⟨hx, hxs⟩ := List.forall_mem_cons.mp h
    simp [List.mapM_cons, hx, ih hxs]

theorem descOfData_descLine (d : Desc) :
    descOfData (.arr [.str d.name, .arr (d.fields.map fun f => .arr [.str f.1, .str f.2])]) = some d := by
  rw [descOfData, mapM_map_eq_some]
  · rfl
  · exact fun _ _ => rfl

/-- one evaluation for the three comparisons -/
theorem marker_names : kType ≠ kIdent ∧ kType ≠ kData ∧ cps "recorddescriptor" ≠ cps "record" := by decide +kernel

theorem readLine_markers (L : LibLaws) (H : HashFn) (reg : Registry) (d : Desc) (xs : List (Text × JVal))
    (h1 : kType ∉ keysOf xs) (h2 : kIdent ∉ keysOf xs) (hreg : regGet reg (ident H d) = some d) :
    readLine L H reg (.obj (xs ++ markers H d)) = (construct L d xs).map fun r => (reg, .record r) := by
  have l1 : lookupT kType (xs ++ markers H d) = some (.str (cps "record")) := by
    rw [lookupT_append_of_not_mem _ h1, markers, lookupT, if_pos rfl]
  have l2 : lookupT kIdent (xs ++ markers H d) = some (.arr [.str d.name, .int (H d)]) := by
    rw [lookupT_append_of_not_mem _ h2, markers, lookupT, if_neg marker_names.1, lookupT, if_pos rfl]
  have hdrop : dropKeys [kType, kIdent] (xs ++ markers H d) = xs :=
    dropKeys_append (List.forall_mem_cons.mpr ⟨h1, List.forall_mem_cons.mpr ⟨h2, nofun⟩⟩)
      fun k hk => by simpa [markers, keysOf] using hk
  have hid : regGet reg (d.name, H d) = some d := hreg
  simp only [readLine, if_true, l1, l2, Int.toNat_natCast, hid, hdrop]

theorem readLine_toJson (L : LibLaws) (H : HashFn) {reg : Registry} {r : Rec} (h : WellTyped L r)
    (hreg : regGet reg (ident H r.desc) = some r.desc) :
    readLine L H reg (toJson H true r) = .ok (reg, .record (canonRec r)) := by
  have hkeys := keys_encFields h.len.symm
  rw [toJson, if_pos rfl, readLine_markers L H reg r.desc _ (hkeys ▸ h.noMarker.1) (hkeys ▸ h.noMarker.2) hreg,
    construct_encFields L h]
  rfl

theorem regGet_regSet (reg : Registry) (k k' : Text × Nat) (d : Desc) :
    regGet (regSet reg k d) k' = if k = k' then some d else regGet reg k' := by
  simp only [regSet, regGet]

theorem readLine_descLine (L : LibLaws) (H : HashFn) (reg : Registry) (d : Desc) :
    readLine L H reg (descLine d)
      = .ok (if regGet reg (ident H d) = some d then reg else regSet reg (ident H d) d, .descriptor d) := by
  simp only [readLine, descLine, lookupT, if_true, if_neg marker_names.2.1, if_neg marker_names.2.2, Option.bind_some,
    descOfData_descLine]

/-- Writer and reader keep the same registry: the reader does to its registry on a descriptor line what the writer
    did to its own before writing that line. -/
theorem readAll_writeRec (L : LibLaws) (H : HashFn) (reg : Registry) {r : Rec} (h : WellTyped L r) (rest : List JVal) :
    readAll L H reg ((writeRec H true reg r).2 ++ rest)
      = (readAll L H (writeRec H true reg r).1 rest).map (canonRec r :: ·) := by
  by_cases hk : regGet reg (ident H r.desc) = some r.desc
  · simp only [writeRec, if_pos hk, List.cons_append, List.nil_append, readAll, readLine_toJson L H h hk]
  · have hnew : regGet (regSet reg (ident H r.desc) r.desc) (ident H r.desc) = some r.desc := by
      rw [regGet_regSet, if_pos rfl]
    simp only [writeRec, if_neg hk, if_true, List.cons_append, List.nil_append, readAll, readLine_descLine,
      readLine_toJson L H h hnew]

theorem readAll_writeFailed (L : LibLaws) (H : HashFn) (reg : Registry) (r : Rec) (rest : List JVal) :
    readAll L H reg ((writeFailed H true reg r).2 ++ rest) = readAll L H (writeFailed H true reg r).1 rest := by
  by_cases hk : regGet reg (ident H r.desc) = some r.desc
  · simp only [writeFailed, if_pos hk, List.nil_append]
  · simp only [writeFailed, if_neg hk, if_true, List.cons_append, List.nil_append, readAll, readLine_descLine]

theorem stream_roundtrip_hist (L : LibLaws) (H : HashFn) (hist : List (Rec × Bool)) :
    ∀ reg : Registry, (∀ e ∈ hist, e.2 = true → WellTyped L e.1) →
      readAll L H reg (writeHist H true reg hist) = .ok ((hist.filter (·.2)).map (fun e => canonRec e.1)) := by
  induction hist with
  | nil => intro _ _; rfl
  | cons e rs ih =>
    intro reg hwt
    have hrs := fun reg' => ih reg' (fun x hx => hwt x (List.mem_cons_of_mem _ hx))
    obtain ⟨r, _ | _⟩ := e
    · rw [writeHist, readAll_writeFailed, hrs]; rfl
    · rw [writeHist, readAll_writeRec L H reg (hwt _ (List.mem_cons_self ..) rfl), hrs]; rfl

theorem JsonTextLaws.loads_dumps (T : JsonTextLaws) (ls : List JVal) (h : ∀ l ∈ ls, T.plain l) :
    (ls.map T.dumps).mapM T.loads = some ls :=
  mapM_map_eq_some fun l hl => T.roundtrip l (h l hl)

/-- the `json/record` the fallback makes of the members `xs` and the reserved values `s`, `c`, `g` -/
def plainOf (xs : List (Text × JVal)) (s c : JVal) (g : Text) : PlainRec where
  typeName := cps Gen.jsonFallbackTypeName
  fields := xs.map fun kv => (plainType kv.2, kv.1)
  vals := xs.map fun kv => plainVal kv.2
  source := plainVal s
  classification := plainVal c
  generatedIso := some g

theorem fromJsonPlain_ok {kvs : List (Text × JVal)} {s c : JVal} {g : Text}
    (hu : ∀ k ∈ keysOf kvs, startsUnderscore k = true → k ∈ reservedFields.map (·.2))
    (hs : lookupT (cps "_source") kvs = some s) (hc : lookupT (cps "_classification") kvs = some c)
    (hg : lookupT (cps "_generated") kvs = some (.str g)) :
    fromJsonPlain kvs = .ok (plainOf (kvs.filter fun p => !startsUnderscore p.1) s c g) := by
  have hall : (kvs.filter fun p => startsUnderscore p.1).all (fun p => (reservedFields.map (·.2)).contains p.1) = true :=
    List.all_eq_true.mpr fun p hp => List.contains_iff_mem.mpr
      (hu p.1 (List.mem_map_of_mem (List.mem_filter.mp hp).1) (List.mem_filter.mp hp).2)
  simp only [fromJsonPlain, hall, if_true, hs, hc, hg, plainOf]

theorem plain_fallback (L : LibLaws) {r : Rec} (h : WellTyped L r)
    (hdecl : ∀ f ∈ r.desc.fields, startsUnderscore f.2 = false) {pre : List FV} {src cls : FV} {g : DateTime.DT}
    (hv : r.vals = pre ++ reservedVals src cls g) :
    fromJsonPlain (encFields (allFields r.desc) r.vals) = .ok (plainOf (encFields r.desc.fields pre)
      (encField (cps "string") src) (encField (cps "string") cls) (DateTime.toIso g)) := by
  have hpre := h.pre_length hv
  obtain ⟨hs, hc, hg⟩ := h.reserved_lookups hv
  have hd : ∀ k ∈ r.desc.fields.map (·.2), startsUnderscore k = false := List.forall_mem_map.mpr hdecl
  have hu : ∀ k ∈ reservedFields.map (·.2), startsUnderscore k = true := by decide +kernel
  rw [fromJsonPlain_ok ?_ hs hc hg]
  · -- the members kept as fields are those of the declared slots
    rw [hv, allFields, encFields_append _ _ hpre.symm,
      filter_keys_append (fun k => !startsUnderscore k) (fun k hk => ?_) (fun k hk => ?_)]
    · rw [keys_encFields hpre.symm] at hk
      rw [hd k hk]; rfl
    · rw [keys_encFields (by rfl)] at hk
      rw [hu k hk]; rfl
  · intro k hk hk'
    rw [keys_encFields h.len.symm, allFields, List.map_append, List.mem_append] at hk
    exact hk.resolve_left fun hf => by rw [hd k hf] at hk'; cases hk'

end FlowRecord.Json
