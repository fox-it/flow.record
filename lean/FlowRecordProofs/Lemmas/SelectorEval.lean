import FlowRecordProofs.Lemmas.SelectorTables
/-!
The interpreter model as equations: how `M`'s bind runs, what one level of `_eval` is on each node class once the
generated constants are read off, what a comparison link is on a decoded table entry; at the end the generator-variable
namespace. No later proof unfolds `evalStep` or `linkCompare`.
-/
namespace FlowRecord.Selector

variable {P : Prim} {self : Expr → M PVal} {α β : Type}

theorem bind_eq {α β : Type} (m : M α) (f : α → M β) : (m >>= f) = M.bind m f := rfl
theorem pure_eq {α : Type} (a : α) : (pure a : M α) = M.pure a := rfl

theorem M.bind_apply (m : M α) (f : α → M β) (st : St) :
    (m >>= f) st = match (m st).2 with
      | .ok a => f a (m st).1
      | .error e => ((m st).1, .error e) := by
  show M.bind m f st = _
  unfold M.bind
  cases m st with
  | mk s r => cases r <;> rfl

theorem M.bind_of_snd_ok {m : M α} {f : α → M β} {st : St} {a : α} (h : (m st).2 = .ok a) :
    (m >>= f) st = f a (m st).1 := by
  rw [M.bind_apply, h]

theorem M.bind_of_snd_error {m : M α} {f : α → M β} {st : St} {e : Err} (h : (m st).2 = .error e) :
    (m >>= f) st = ((m st).1, .error e) := by
  rw [M.bind_apply, h]

-- for a caller that knows the whole outcome `m st` (C08); `Pres` and `Sim` know `(m st).2` only
theorem M.bind_of_eq_ok {m : M α} {f : α → M β} {st s' : St} {a : α} (h : m st = (s', .ok a)) :
    (m >>= f) st = f a s' := by
  rw [M.bind_apply, h]

theorem M.bind_ok_inv {m : M α} {f : α → M β} {st : St} {b : β} (h : ((m >>= f) st).2 = .ok b) :
    ∃ a, (m st).2 = .ok a ∧ (f a (m st).1).2 = .ok b := by
  rw [M.bind_apply] at h
  split at h
  · exact ⟨_, ‹_›, h⟩
  · cases h

theorem M.log_bind (ev : Event) (f : Unit → M α) (st : St) :
    (M.log ev >>= f) st = f () { st with trace := st.trace ++ [ev] } := rfl

theorem evalBool_cons (stopOn : Bool) (e : Expr) (rest : List Expr) (last : PVal) (st : St) :
    evalBool P self stopOn (e :: rest) last st =
      match (self e st).2 with
      | .ok v => if P.truthy v == stopOn then ((self e st).1, .ok v) else evalBool P self stopOn rest v (self e st).1
      | .error .typeErrNone =>
        if false == stopOn then ((self e st).1, .ok (.bool false))
        else evalBool P self stopOn rest (.bool false) (self e st).1
      | .error err => ((self e st).1, .error err) := by
  rw [evalBool]
  dsimp only
  cases self e st with
  | mk s r =>
    cases r with
    | ok v => rfl
    | error er => cases er <;> rfl

theorem evalBool_cons_bind {stopOn : Bool} {e : Expr} {rest : List Expr} {last : PVal} {st : St}
    (h : (self e st).2 ≠ .error .typeErrNone) :
    evalBool P self stopOn (e :: rest) last st =
      (self e >>= fun v => if P.truthy v == stopOn then pure v else evalBool P self stopOn rest v) st := by
  rw [evalBool_cons, M.bind_apply]
  cases hr : (self e st).2 with
  | ok v => dsimp only; split <;> rfl
  | error x => cases x <;> first | rfl | exact absurd hr h

theorem interp_succ (n : Nat) (e : Expr) : interp P (n + 1) e = evalStep P (interp P n) e := rfl

theorem interpMatch_eq (fuel : Nat) (rec : PVal) (e : Expr) :
    interpMatch P fuel rec e = interp P fuel e { ns := [], trace := [], record := rec } := if_pos flagsOk_true

/-- The guard at the head of `evalStep` lets a handled node class pass; each equation below but `evalStep_other`, whose
    node the guard may refuse, states the arm of the `match` that is left, once the generated constants are read off. -/
theorem kind_guard {e : Expr} (h : e.kind ∈ handledKinds) : ¬ (!(Gen.evalNodeKinds.contains e.kind)) = true := by
  rw [kinds_handled _ h]; decide

theorem evalStep_const (c : Const) : evalStep P self (.const c) = pure (constVal c) :=
  if_neg (kind_guard (by simp [Expr.kind]))

theorem evalStep_list (es : List Expr) : evalStep P self (.list es) = evalList self es >>= fun vs => pure (.list vs) :=
  if_neg (kind_guard (by simp [Expr.kind]))

theorem evalStep_tuple (es : List Expr) :
    evalStep P self (.tuple es) = evalList self es >>= fun vs => pure (.tuple vs) :=
  if_neg (kind_guard (by simp [Expr.kind]))

theorem evalStep_name (id : String) : evalStep P self (.name id) = fun st =>
    if inData st id then (st, .ok ((dataGet st id).getD .none))
    else if hasPrefix "__" id then (st, .error .invalidOp)
    else (M.log (.fallback id) >>= fun _ => M.lift (P.dynft id)) st := by
  rw [← nameRefused_eq]
  exact if_neg (kind_guard (by simp [Expr.kind]))

theorem evalStep_attr (v : Expr) (a : String) : evalStep P self (.attr v a) =
    if hasPrefix "__" a then M.throw .invalidOp
    else self v >>= fun obj => M.log (.getattr obj a) >>= fun _ => pure ((P.getattr obj a).getD .missing) := by
  rw [← attrRefusedPrefix_eq]
  exact if_neg (kind_guard (by simp [Expr.kind]))

theorem evalStep_boolop (op : String) (vs : List Expr) :
    evalStep P self (.boolop op vs) = evalBool P self (op == "Or") vs .none :=
  if_neg (kind_guard (by simp [Expr.kind]))

theorem evalStep_binop (op : String) (l r : Expr) : evalStep P self (.binop op l r) =
    self l >>= fun lv => self r >>= fun rv =>
      if binopGuard lv rv then pure (.bool false)
      else match tableArith op with
        | .ok a => M.lift (P.arith a lv rv)
        | .error e => M.throw e :=
  if_neg (kind_guard (by simp [Expr.kind]))

theorem evalStep_unary (op : String) (x : Expr) : evalStep P self (.unary op x) =
    match Gen.AST_OPERATORS.lookup op with
    | none => M.throw .keyErr
    | some tgt =>
      if tgt == "operator.not_" then self x >>= fun v => pure (.bool (!P.truthy v))
      else self x >>= fun _ => M.throw (if (arithOfTarget tgt).isSome then .typeErr else .unmodelled) :=
  if_neg (kind_guard (by simp [Expr.kind]))

theorem evalStep_not (x : Expr) : evalStep P self (.unary "Not" x) = self x >>= fun v => pure (.bool (!P.truthy v)) := by
  simp only [evalStep_unary, table_not, beq_self_eq_true, if_true]

theorem evalStep_compare (l : Expr) (rest : List (String × Expr)) :
    evalStep P self (.compare l rest) = self l >>= fun lv => evalChain P self lv rest (.bool true) :=
  if_neg (kind_guard (by simp [Expr.kind]))

theorem evalStep_call (f : Expr) (args : List Expr) (kwargs : List (String × Expr)) :
    evalStep P self (.call f args kwargs) = evalCall P self f args kwargs :=
  if_neg (kind_guard (by simp [Expr.kind]))

theorem evalStep_genexp (elt : Expr) (gens : List Comp) : evalStep P self (.genexp elt gens) = pure .gen :=
  if_neg (kind_guard (by simp [Expr.kind]))

theorem evalStep_other (k : String) :
    evalStep P self (.other k) = M.throw (if Gen.evalNodeKinds.contains k then .unmodelled else .typeErr) := by
  cases h : Gen.evalNodeKinds.contains k <;> simp only [evalStep, Expr.kind, h] <;> rfl

theorem linkCompare_fst (op : String) (l r : PVal) (st : St) : (linkCompare P op l r st).1 = st := by
  unfold linkCompare
  split
  · rfl
  · split <;> rfl

theorem linkCompare_of_impl {op : String} {impl : CmpImpl}
    (h : (Gen.comparatorShapes.lookup op).bind cmpImplOfTarget = some impl) (l r : PVal) (st : St) :
    linkCompare P op l r st =
      if (op == "In" || op == "NotIn") && l.isTmatch then
        (st, (anyValues P (impl.prim P) r (P.tmValues st.record l)).map PVal.bool)
      else (st, impl.prim P l r) := by
  simp only [linkCompare, tableCompare_of_impl h]

theorem consumedGenexp_eq_none (fname : String) {args : List Expr} (kwargs : List (String × Expr))
    (h : ∀ elt gens, .genexp elt gens ∉ args) : consumedGenexp fname args kwargs = none := by
  unfold consumedGenexp
  split
  · exact absurd (List.mem_singleton_self _) (h _ _)
  · rfl

theorem consumedGenexp_genexp {fname : String} {c : Consumer} (h : consumerOf fname = some c) (elt : Expr)
    (gens : List Comp) : consumedGenexp fname [.genexp elt gens] [] = some (c, elt, gens) := by
  simp [consumedGenexp, h]

theorem resolveAttrPath_name (s : String) : resolveAttrPath (.name s) = some s := rfl

theorem rResolve_cons (obj : PVal) (p : String) (ps : List String) :
    rResolve P obj (p :: ps) = P.modattr obj p >>= fun nxt => rResolve P nxt ps := by
  rw [rResolve]
  cases P.modattr obj p <;> rfl

/-! ### the generator-variable namespace -/

def keys (ns : List (String × PVal)) : List String := ns.map (·.1)

theorem delVar_of_not_mem {x : String} {ns : Env} (h : x ∉ keys ns) : delVar x ns = ns :=
  List.filter_eq_self.2 fun _ hp => bne_iff_ne.2 fun hpx => h (hpx ▸ List.mem_map_of_mem hp)

theorem delVar_cons_self (x : String) (v : PVal) (ns : Env) : delVar x ((x, v) :: ns) = delVar x ns := by
  simp [delVar]

theorem lookup_eq_none_iff_keys {x : String} {ns : Env} : ns.lookup x = none ↔ x ∉ keys ns := by
  rw [List.lookup_eq_none_iff, keys, List.mem_map]
  exact ⟨fun h ⟨p, hp, hx⟩ => by simpa [hx] using h p hp, fun h p hp => bne_iff_ne.2 fun hx => h ⟨p, hp, hx.symm⟩⟩

end FlowRecord.Selector
