import FlowRecordProofs.Lemmas.Calendar
/-!
C13: wall-clock microseconds <-> civil fields (`wallUs` / `ofWallUs`) are inverse on years 1..9999; what `fromInstant`
and the field constructor return.
-/
namespace FlowRecord.DateTime

/-- 315537897600000000 µs are the 3652059 days 0001-01-01 .. 9999-12-31 (of 86400000000 µs); with the 306 day numbers
    before 0001-01-01 that is Calendar's 3652365 (`year_range_parts`) -/
theorem wallUs_lt (t : DT) (hv : t.Valid) : wallUs t < 315537897600000000 := by
  have := daysFromCivil_bounds hv.date
  have := hv.clock
  unfold wallUs ordinal0
  omega

theorem ofWallUs_fields {n y m d h mi s us : Nat} (tz : Tz) (hc : ValidClock h mi s us)
    (hd : civilFromDays (n + 306) = (y, m, d)) :
    ofWallUs (n * 86400000000 + h * 3600000000 + mi * 60000000 + s * 1000000 + us) tz =
      ⟨y, m, d, h, mi, s, us, tz⟩ := by
  generalize hw : n * 86400000000 + h * 3600000000 + mi * 60000000 + s * 1000000 + us = w
  have : w / 86400000000 = n ∧ w % 86400000000 / 3600000000 = h ∧ w % 86400000000 / 60000000 % 60 = mi ∧
      w % 86400000000 / 1000000 % 60 = s ∧ w % 86400000000 % 1000000 = us := by omega
  simp only [ofWallUs, this, hd]

theorem ofWallUs_wallUs (t : DT) (hv : t.Valid) : ofWallUs (wallUs t) t.tz = t := by
  have e : ordinal0 t.y t.mo t.d + 306 = daysFromCivil t.y t.mo t.d :=
    Nat.sub_add_cancel (daysFromCivil_bounds hv.date).1
  rw [wallUs, ofWallUs_fields t.tz hv.clock (e ▸ hv.date.civil_days)]

theorem clock_fields (w : Nat) : ∃ n h mi s us, ValidClock h mi s us ∧
    w = n * 86400000000 + h * 3600000000 + mi * 60000000 + s * 1000000 + us :=
  ⟨w / 1000000 / 60 / 60 / 24, w / 1000000 / 60 / 60 % 24, w / 1000000 / 60 % 60, w / 1000000 % 60, w % 1000000,
    by omega, by omega⟩

theorem wallUs_ofWallUs (w : Nat) (tz : Tz) : wallUs (ofWallUs w tz) = w := by
  obtain ⟨n, h, mi, s, us, hc, rfl⟩ := clock_fields w
  rcases hd : civilFromDays (n + 306) with ⟨y, m, d⟩
  rw [ofWallUs_fields tz hc hd]
  unfold wallUs ordinal0
  rw [days_civil hd, Nat.add_sub_cancel]

theorem ofWallUs_valid (w : Nat) (tz : Tz) (hw : w < 315537897600000000) (htz : tz.Valid) : (ofWallUs w tz).Valid := by
  obtain ⟨n, h, mi, s, us, hc, rfl⟩ := clock_fields w
  rcases hd : civilFromDays (n + 306) with ⟨y, m, d⟩
  rw [ofWallUs_fields tz hc hd]
  exact DT.valid_iff.mpr ⟨civil_valid (by omega) (by omega) hd, hc, htz⟩

theorem instant_inj_of_tz_eq {a b : DT} (ha : a.Valid) (hb : b.Valid) (htz : a.tz = b.tz) (h : instant a = instant b) :
    a = b := by
  have e : wallUs a = wallUs b := by unfold instant at h; rw [htz] at h; omega
  rw [← ofWallUs_wallUs a ha, ← ofWallUs_wallUs b hb, e, htz]

theorem instant_ofWallUs (w : Nat) (tz : Tz) : instant (ofWallUs w tz) = (w : Int) - tz.off := by
  unfold instant
  rw [wallUs_ofWallUs]
  rfl

theorem fromInstant_spec {i : Int} {r : DT} (h : fromInstant i = some r) : r.tz = .utc ∧ r.Valid ∧ instant r = i := by
  unfold fromInstant at h
  split at h
  · cases h
    refine ⟨rfl, ofWallUs_valid _ _ (by omega) trivial, ?_⟩
    rw [instant_ofWallUs]
    simp only [Tz.off]
    omega
  · cases h

theorem fromInstant_some (i : Int) (h : 0 ≤ i ∧ i < 315537897600000000) :
    ∃ r, fromInstant i = some r ∧ r.tz = .utc ∧ r.Valid ∧ instant r = i :=
  ⟨_, if_pos h, fromInstant_spec (if_pos h)⟩

theorem fromInstant_instant (t : DT) (hv : t.Valid) (hu : t.tz = .utc) : fromInstant (instant t) = some t := by
  have hi : instant t = (wallUs t : Int) := by unfold instant; rw [hu]; exact Int.sub_zero _
  have hlt := wallUs_lt t hv
  rw [fromInstant, if_pos (by omega), hi, Int.toNat_natCast]
  rw [← hu, ofWallUs_wallUs t hv]

theorem viaAvro_eq (t : DT) : viaAvro t = fromInstant (instant t) := by
  have hmic : fromMicros (toMicros t) = fromInstant (instant t) := by
    unfold fromMicros toMicros; congr 1; omega
  rw [viaAvro, hmic, fromInstant]
  -- `construct (.obj r)` returns a UTC value as it is: `rebuildTz` and `naiveAsUtc` compute on the literal `.utc` of
  -- `ofWallUs _ .utc`
  split <;> rfl

theorem construct_epoch (n : Int) : construct (.epoch n) = fromInstant (n * 1000000 + 62135596800000000) := rfl

/-- a constructed value is `naiveAsUtc` of a datetime `t` that is valid unless it is an invalid object handed in -/
theorem construct_some {inp : Input} {r : DT} (h : construct inp = some r) :
    r.tz ≠ .naive ∧ ((∀ x, inp = .obj x → x.Valid) → r.Valid) := by
  have ⟨t, e, hv⟩ : ∃ t, r = naiveAsUtc t ∧ ((∀ x, inp = .obj x → x.Valid) → t.Valid) := by
    cases inp with
    | obj t =>
      cases h
      exact ⟨_, rfl, fun hin => withTz_valid t _ (hin t rfl) (rebuildTz_valid (hin t rfl).tz)⟩
    | iso txt =>
      obtain ⟨a, ha, rfl⟩ := Option.map_eq_some_iff.mp h
      exact ⟨a, rfl, fun _ => parseIso_valid ha⟩
    | epoch n =>
      obtain ⟨hu, hv, -⟩ := fromInstant_spec ((construct_epoch n).symm.trans h)
      exact ⟨r, (naiveAsUtc_of_aware r (hu ▸ Tz.noConfusion)).symm, fun _ => hv⟩
    | fields y mo d hh mi s us =>
      simp only [construct] at h
      split at h
      · cases h
        exact ⟨_, rfl, fun _ => by assumption⟩
      · cases h
  exact e ▸ ⟨naiveAsUtc_aware t, fun hin => naiveAsUtc_valid t (hv hin)⟩

end FlowRecord.DateTime
