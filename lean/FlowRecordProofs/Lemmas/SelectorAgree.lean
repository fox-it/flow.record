import FlowRecordProofs.Lemmas.SelectorEval
/-! C07, interpreted engine: on the documented grammar the interpreter returns what the pure reference evaluator
    returns, value or exception, wherever that is `Good`. For every `Prim`. -/
namespace FlowRecord.Selector

/-- The documented selector language; `b`: the generator variables in scope. -/
inductive Supported : List String → Expr → Prop
  | const (b c) : Supported b (.const c)
  | list (b es) : (∀ e ∈ es, Supported b e) → Supported b (.list es)
  | tuple (b es) : (∀ e ∈ es, Supported b e) → Supported b (.tuple es)
  | name (b id) : Supported b (.name id)
  | attr (b v a) : Supported b v → Supported b (.attr v a)
  | boolop (b op vs) : (∀ e ∈ vs, Supported b e) → Supported b (.boolop op vs)
  | binop (b op l r) : op ∈ docBinops → Supported b l → Supported b r → Supported b (.binop op l r)
  | not (b x) : Supported b x → Supported b (.unary "Not" x)
  | compare (b l rest) : Supported b l → (∀ p ∈ rest, p.1 ∈ docCmpops) → (∀ p ∈ rest, Supported b p.2) →
      Supported b (.compare l rest)
  /-- Any target: which are accepted is C09's subject, a refused one is refused identically. No argument is a generator
      expression (`Supported` has no constructor for one), so this case and `callGen` do not overlap. -/
  | call (b f args kwargs) : (∀ a ∈ args, Supported b a) → (∀ k ∈ kwargs, Supported b k.2) →
      Supported b (.call f args kwargs)
  /-- `any(elt for x in iter if …)` / `all(…)`: one `for` clause, a fresh variable name -/
  | callGen (b f fname c elt x iter ifs) : resolveAttrPath f = some fname → allowedCalls.contains fname = true →
      consumerOf fname = some c → x ∉ b → baseKeys.contains x = false → Supported b iter →
      (∀ i ∈ ifs, Supported (x :: b) i) → Supported (x :: b) elt →
      Supported b (.call f [.genexp elt [(some x, iter, ifs)]] [])

/-- The two outcomes of the reference on which the interpreted engine is documented to differ from plain Python:
    `undefined` (a missing attribute; the sentinel reaching arithmetic or membership; a typed matcher on the left of
    `in`) and `typeErrNone` (a TypeError mentioning NoneType, which the BoolOp branch swallows). -/
def Bad : Err → Bool
  | .typeErrNone => true
  | .undefined => true
  | _ => false

def Good {α : Type} (r : Except Err α) : Prop := ∀ e, r = .error e → Bad e = false

theorem good_ok {α : Type} (a : α) : Good (Except.ok a : Except Err α) := fun _ h => by cases h
theorem good_of_bind {α β : Type} {r : Except Err α} {g : α → Except Err β} (h : Good (r >>= g)) : Good r := by
  cases r with
  | ok a => exact good_ok a
  | error e => exact fun e' h' => by cases h'; exact h e rfl

variable {P : Prim} {self : Expr → M PVal} {R : Env → Expr → Except Err PVal}
  {rec : PVal} {A A' B B' C : Env → Prop} {α β : Type}

/-- `A`, `B`: the namespace before and after; they differ only inside a generator loop (`UpTo`). -/
def Sim (rec : PVal) (A B : Env → Prop) (m : M α) (r : Except Err α) : Prop :=
  ∀ st, A st.ns → st.record = rec → Good r → (m st).2 = r ∧ B (m st).1.ns ∧ (m st).1.record = rec

abbrev Matches (rec : PVal) (env : Env) (m : M α) (r : Except Err α) : Prop := Sim rec (· = env) (· = env) m r

/-- The induction hypothesis of `agree_interp`, on the recursive knot `self` / `R`. -/
def Agree (rec : PVal) (self : Expr → M PVal) (R : Env → Expr → Except Err PVal) : Prop :=
  ∀ env e, Supported (keys env) e → Matches rec env (self e) (R env e)

/-
How the lemmas below use the two models. Through the equations of `SelectorEval`: `evalStep`, `evalBool`, the bind of
`M`, `linkCompare`, `consumedGenexp`, `rResolve`. Unfolded where they are treated, both engines at once: `evalCall` with
`rCall` / `rTarget` (`matches_evalCall`), `runGenexp` (`matches_runGenexp`), `rCompare` (`prim_eq_rCompare`), `refStep`
on a name (`matches_evalStep`). By reduction alone, when a `sim_*` / `matches_*` lemma meets the goal: one round of a
recursive loop of either model, `refStep` on the other constructors, and with them the reference's guards
`!cfg.compiled && c` (`cfg` is the literal `{ compiled := false, .. }`, so the guard is `c`) and `popAll [x]`.
-/

theorem Sim.weaken {m : M α} {r : Except Err α} (h : Sim rec A B m r) (hA : ∀ ns, A' ns → A ns) (hB : ∀ ns, B ns → B' ns) :
    Sim rec A' B' m r := fun st ha hr hG =>
  have ⟨h1, h2, h3⟩ := h st (hA _ ha) hr hG
  ⟨h1, hB _ h2, h3⟩

theorem sim_pure (a : α) : Sim rec A A (pure a) (pure a) := fun _ ha hr _ => ⟨rfl, ha, hr⟩

theorem sim_lift (r : Except Err α) : Sim rec A A (M.lift r) r := fun _ ha hr _ => ⟨rfl, ha, hr⟩

theorem sim_throw (e : Err) : Sim rec A A (M.throw e : M α) (.error e) := fun _ ha hr _ => ⟨rfl, ha, hr⟩

theorem sim_bad {m : M α} {e : Err} (h : Bad e = true) : Sim rec A B m (.error e) :=
  fun _ _ _ hG => absurd (hG e rfl) (by simp [h])

/-- `hBC`: the path on which the first step raises. -/
theorem sim_bind {m : M α} {r : Except Err α} {f : α → M β} {g : α → Except Err β} (hm : Sim rec A B m r)
    (hf : ∀ a, Sim rec B C (f a) (g a)) (hBC : ∀ ns, B ns → C ns) : Sim rec A C (m >>= f) (r >>= g) := by
  intro st ha hr hG
  obtain ⟨h1, h2, h3⟩ := hm st ha hr (good_of_bind hG)
  cases r with
  | error e => rw [M.bind_of_snd_error h1]; exact ⟨rfl, hBC _ h2, h3⟩
  | ok a => rw [M.bind_of_snd_ok h1]; exact hf a _ h2 h3 hG

theorem matches_bind {env : Env} {m : M α} {r : Except Err α} {f : α → M β} {g : α → Except Err β}
    (hm : Matches rec env m r) (hf : ∀ a, Matches rec env (f a) (g a)) :
    Matches rec env (m >>= f) (r >>= g) := sim_bind hm hf fun _ h => h

theorem sim_ite {c : Prop} [Decidable c] {m1 m2 : M α} {r1 r2 : Except Err α}
    (h1 : Sim rec A B m1 r1) (h2 : Sim rec A B m2 r2) : Sim rec A B (if c then m1 else m2) (if c then r1 else r2) := by
  split <;> assumption

theorem sim_log (ev : Event) {m : M α} {r : Except Err α} (hm : Sim rec A B m r) :
    Sim rec A B (M.log ev >>= fun _ => m) r := fun st => hm { st with trace := st.trace ++ [ev] }

theorem sim_finally {m : M α} {r : Except Err α} {fin : St → St} (hm : Sim rec A B m r)
    (hfin : ∀ s, B s.ns → C (fin s).ns ∧ (fin s).record = s.record) : Sim rec A C (M.finally_ m fin) r :=
  fun st ha hr hG =>
    have ⟨h1, h2, h3⟩ := hm st ha hr hG
    ⟨h1, (hfin _ h2).1, (hfin _ h2).2.trans h3⟩

theorem matches_evalList (hA : Agree rec self R) (env : Env) (es : List Expr) (hS : ∀ e ∈ es, Supported (keys env) e) :
    Matches rec env (evalList self es) (rList R env es) := by
  induction es with
  | nil => exact sim_pure _
  | cons e es ih =>
    exact matches_bind (hA env e (hS e (by simp))) fun v =>
      matches_bind (ih fun x hx => hS x (by simp [hx])) fun vs => sim_pure _

theorem matches_evalKwargs (hA : Agree rec self R) (env : Env) (es : List (String × Expr))
    (hS : ∀ k ∈ es, Supported (keys env) k.2) : Matches rec env (evalKwargs self es) (rKwargs R env es) := by
  induction es with
  | nil => exact sim_pure _
  | cons ke es ih =>
    exact matches_bind (hA env ke.2 (hS ke (by simp))) fun v =>
      matches_bind (ih fun x hx => hS x (by simp [hx])) fun vs => sim_pure _

theorem matches_evalBool (hA : Agree rec self R) (stopOn : Bool) (env : Env) (es : List Expr) (last : PVal)
    (hS : ∀ e ∈ es, Supported (keys env) e) :
    Matches rec env (evalBool P self stopOn es last) (rBool P R env stopOn es last) := by
  induction es generalizing last with
  | nil => exact sim_pure _
  | cons e es ih =>
    have he := hA env e (hS e (by simp))
    intro st hns hr hG
    -- the one exception the loop swallows is the one `Good` rules out
    have hne : (self e st).2 ≠ .error .typeErrNone := fun h => by
      rw [(he st hns hr (good_of_bind hG)).1] at h
      rw [rBool, h] at hG
      exact absurd (hG _ rfl) (by decide)
    rw [evalBool_cons_bind hne]
    exact matches_bind he (fun v => sim_ite (sim_pure v) (ih v fun x hx => hS x (by simp [hx]))) st hns hr hG

theorem prim_eq_rCompare {op : String} {impl : CmpImpl} (hd : docCmp op = some impl) (l r : PVal)
    (hG : Good (rCompare P { compiled := false, record := rec } op l r)) :
    impl.prim P l r = rCompare P { compiled := false, record := rec } op l r := by
  unfold rCompare at hG ⊢
  rw [hd] at hG ⊢
  cases impl with
  | rich o | is_ | isNot => rfl
  | guardedIn | guardedNotIn =>
    -- where the reference refuses an operand its result is not `Good`; elsewhere neither guard fires
    by_cases hm : (l.isMissing || r.isMissing || l.isTmatch) = true
    · simp only [hm, Bool.not_false, Bool.and_self, if_true] at hG
      exact absurd (hG _ rfl) (by decide)
    · simp only [Bool.or_eq_true, not_or, Bool.not_eq_true] at hm
      simp [CmpImpl.prim, hm.1.1, hm.1.2, hm.2]

theorem rCompare_tmatch {op : String} {l : PVal} (r : PVal) (h : ((op == "In" || op == "NotIn") && l.isTmatch) = true) :
    rCompare P { compiled := false, record := rec } op l r = .error .undefined := by
  simp only [Bool.and_eq_true, Bool.or_eq_true, beq_iff_eq] at h
  obtain ⟨ho | ho, hl⟩ := h <;> subst ho <;> simp [rCompare, docCmp, hl]

theorem matches_linkCompare (env : Env) {op : String} (hop : op ∈ docCmpops) (l r : PVal) :
    Matches rec env (linkCompare P op l r) (rCompare P { compiled := false, record := rec } op l r) := by
  by_cases h : ((op == "In" || op == "NotIn") && l.isTmatch) = true
  · exact rCompare_tmatch r h ▸ sim_bad rfl
  · obtain ⟨impl, hd⟩ := Option.isSome_iff_exists.1 (docCmp_isSome op hop)
    intro st hns hr hG
    rw [← prim_eq_rCompare hd l r hG, linkCompare_of_impl ((comparators_doc op hop).trans hd), if_neg h]
    exact ⟨rfl, hns, hr⟩

theorem matches_evalChain (hA : Agree rec self R) (env : Env) (rest : List (String × Expr))
    (left result : PVal) (hop : ∀ p ∈ rest, p.1 ∈ docCmpops) (hS : ∀ p ∈ rest, Supported (keys env) p.2) :
    Matches rec env (evalChain P self left rest result)
      (rChain P { compiled := false, record := rec } R env left rest result) := by
  induction rest generalizing left result with
  | nil => exact sim_pure _
  | cons oc rest ih =>
    exact matches_bind (hA env oc.2 (hS oc (by simp))) fun right =>
      matches_bind (matches_linkCompare env (hop oc (by simp)) left right) fun res =>
        sim_ite (sim_pure _) (ih right res (fun p hp => hop p (by simp [hp])) fun p hp => hS p (by simp [hp]))

theorem matches_evalIfs (hA : Agree rec self R) (env : Env) (cs : List Expr) (hS : ∀ e ∈ cs, Supported (keys env) e) :
    Matches rec env (evalIfs P self cs) (rIfs P R env cs) := by
  induction cs with
  | nil => exact sim_pure _
  | cons e es ih =>
    exact matches_bind (hA env e (hS e (by simp))) fun v =>
      sim_ite (ih fun x hx => hS x (by simp [hx])) (sim_pure _)

/-- the namespace is `ns0` once the loop variable `x` is removed -/
def UpTo (x : String) (ns0 : Env) (ns : Env) : Prop := delVar x ns = ns0

theorem sim_forVals {body : PVal → M (Option Bool)} {rbody : PVal → Except Err (Option Bool)}
    (hb : ∀ v, Sim rec A A (body v) (rbody v)) (vals : List PVal) :
    Sim rec A A (forVals body vals) (rForVals rbody vals) := by
  induction vals with
  | nil => exact sim_pure _
  | cons v vs ih =>
    refine sim_bind (hb v) (fun o => ?_) fun _ h => h
    cases o with
    | some b => exact sim_pure _
    | none => exact ih

/-- `self.data[x] = v`, a step of the interpreter only -/
theorem sim_setVar (x : String) (v : PVal) {ns0 : Env} {m : M α} {r : Except Err α}
    (hm : Sim rec (· = (x, v) :: ns0) B m r) : Sim rec (UpTo x ns0) B (M.setVar x v >>= fun _ => m) r :=
  fun st ha => hm (st.set x v) (by rw [← ha]; rfl)

/-- One `for` clause over a fresh `x`: the loop starts in `env` and runs in namespaces that are `env` up to `x`, where
    the reference extends `env` by `x` instead. -/
theorem sim_loopGens (hA : Agree rec self R) (c : Consumer) {elt iter : Expr} {x : String} {ifs : List Expr} {env : Env}
    (hx : x ∉ keys env) (hSit : Supported (keys env) iter) (hSi : ∀ i ∈ ifs, Supported (x :: keys env) i)
    (hSe : Supported (x :: keys env) elt) :
    Sim rec (· = env) (UpTo x env) (loopGens P self c elt [(some x, iter, ifs)])
      (rLoop P { compiled := false, record := rec } R c elt [(some x, iter, ifs)] env) := by
  have hd : delVar x env = env := delVar_of_not_mem hx
  -- `sim_ite`: the reference's guard `!false && c` is `c` by reduction
  refine sim_bind (hA env iter hSit) (fun itv => sim_ite (sim_bad rfl) ?_) (fun ns h => h ▸ hd)
  refine sim_bind ((sim_lift _).weaken (fun _ h => h ▸ hd) fun _ h => h)
    (fun vals => sim_forVals (fun val => sim_setVar x val ?_) vals) fun _ h => h
  exact (matches_bind (matches_evalIfs hA ((x, val) :: env) ifs hSi) fun b =>
    sim_ite (matches_bind (hA ((x, val) :: env) elt hSe) fun v => sim_pure _) (sim_pure _)).weaken
      (fun _ h => h) (fun ns h => h ▸ (delVar_cons_self x val env).trans hd)

/-- `x` is fresh, so neither refusal of `runGenexp` fires, and the final pop of `x` gives `env` back. -/
theorem matches_runGenexp (hA : Agree rec self R) (c : Consumer) {elt iter : Expr} {x : String} {ifs : List Expr}
    {env : Env} (hx : x ∉ keys env) (hbk : baseKeys.contains x = false) (hSit : Supported (keys env) iter)
    (hSi : ∀ i ∈ ifs, Supported (x :: keys env) i) (hSe : Supported (x :: keys env) elt) :
    Matches rec env (runGenexp P self c elt [(some x, iter, ifs)])
      (rLoop P { compiled := false, record := rec } R c elt [(some x, iter, ifs)] env >>= fun r =>
        pure (.bool (r.getD c.default))) := by
  intro st hns hr
  have hin : inData st x = false := by
    simp [inData, hns, lookup_eq_none_iff_keys.2 hx, show x ∉ baseKeys by simpa using hbk]
  unfold runGenexp
  simp only [List.any_cons, List.any_nil, Option.isNone_some, Bool.or_self, Bool.false_eq_true, if_false,
    Option.getD_some, hin]
  -- `popAll [x]` is `delVar x` by reduction
  exact sim_finally (sim_bind (sim_loopGens hA c hx hSit hSi hSe) (fun _ => sim_pure _) fun _ h => h)
    (fun _ h => ⟨h, rfl⟩) st hns hr

theorem matches_resolveWhitelisted (env : Env) (parts : List String) (obj : PVal) :
    Matches rec env (resolveWhitelisted P obj parts) (rResolve P obj parts) := by
  induction parts generalizing obj with
  | nil => exact sim_pure _
  | cons p ps ih =>
    rw [rResolve_cons]
    exact sim_log _ (matches_bind (sim_lift _) fun nxt => ih nxt)

theorem resolve_some_nameOrAttr {f : Expr} {p : String} (h : resolveAttrPath f = some p) : isNameOrAttr f = true := by
  cases f <;> first | rfl | cases h

theorem matches_call_plain (hA : Agree rec self R) (f : PVal) (env : Env) {args : List Expr}
    {kwargs : List (String × Expr)} (hSa : ∀ a ∈ args, Supported (keys env) a)
    (hSk : ∀ k ∈ kwargs, Supported (keys env) k.2) :
    Matches rec env
      (evalList self args >>= fun a => evalKwargs self kwargs >>= fun k =>
        M.log (.call f) >>= fun _ => M.lift (P.call f a k))
      (rList R env args >>= fun a => rKwargs R env kwargs >>= fun k => P.call f a k) :=
  matches_bind (matches_evalList hA env args hSa) fun _ =>
    matches_bind (matches_evalKwargs hA env kwargs hSk) fun _ => sim_log _ (sim_lift _)

theorem matches_evalCall (hA : Agree rec self R) (env : Env) {func : Expr} {args : List Expr}
    {kwargs : List (String × Expr)} (hS : Supported (keys env) (.call func args kwargs)) :
    Matches rec env (evalCall P self func args kwargs)
      (rCall P { compiled := false, record := rec } R env func args kwargs) := by
  -- with `compiled := false` the reference finds its target by the tests of `evalCall`, in the same order
  -- (`isNameOrAttr` follows from `resolveAttrPath`): both sides are unfolded and match under each outcome of the tests
  unfold evalCall rCall rTarget
  simp only [Bool.false_eq_true, if_false]
  cases hp : resolveAttrPath func with
  | none =>
    rw [ite_self]
    exact sim_throw _
  | some fname =>
    simp only [resolve_some_nameOrAttr hp, Bool.not_true, Bool.false_eq_true, if_false]
    cases hS with
    | call _ _ _ _ hSa hSk =>
      by_cases ha : allowedCalls.contains fname = true
      · simp only [ha, if_true, consumedGenexp_eq_none fname kwargs fun _ _ hm => nomatch hSa _ hm]
        exact matches_call_plain hA (.builtin fname) env hSa hSk
      · simp only [ha, Bool.false_eq_true, if_false]
        by_cases hw : Gen.WHITELIST.contains fname = true
        · simp only [hw, if_true, bind_assoc, pure_bind]
          exact matches_bind (matches_resolveWhitelisted env _ _) fun f => matches_call_plain hA f env hSa hSk
        · simp only [hw, Bool.false_eq_true, if_false]
          exact sim_throw _
    | callGen _ _ fname' c elt x iter ifs hp' ha hcons hx hbk hSit hSi hSe =>
      cases hp.symm.trans hp'
      simp only [ha, if_true, consumedGenexp_genexp hcons]
      exact sim_log _ (matches_runGenexp hA c hx hbk hSit hSi hSe)

theorem matches_evalStep (hA : Agree rec self R) (env : Env) (e : Expr) (hS : Supported (keys env) e) :
    Matches rec env (evalStep P self e) (refStep P { compiled := false, record := rec } R env e) := by
  have hcall := hS  -- whole, for the two kinds of call
  cases hS with
  | const _ c => exact evalStep_const c ▸ sim_pure _
  | list _ es h => exact evalStep_list es ▸ matches_bind (matches_evalList hA env es h) fun _ => sim_pure _
  | tuple _ es h => exact evalStep_tuple es ▸ matches_bind (matches_evalList hA env es h) fun _ => sim_pure _
  | name _ id =>
    -- both sides look `id` up in the same order: generator variables (`st.ns` is `env`), `baseKeys`, and for a name in
    -- neither the refusal of `__` before the fallback `P.dynft`
    rw [evalStep_name]
    intro st hns hr _
    subst hns
    cases hl : st.ns.lookup id with
    | some v => simp [refStep, inData, dataGet, hl, hr]
    | none =>
      by_cases hb : id ∈ baseKeys
      · simp [refStep, inData, dataGet, hl, hb, refName, hr]
      · by_cases hd : hasPrefix "__" id = true <;>
          simp [refStep, inData, hl, hb, refName, M.log_bind, M.lift, hd, hr]
  | attr _ v a hv =>
    rw [evalStep_attr]
    refine sim_ite (sim_throw _) <| matches_bind (hA env v hv) fun obj => sim_log _ ?_
    cases hg : P.getattr obj a with
    | some r => exact sim_pure _
    | none => exact sim_bad rfl
  | boolop _ op vs h => exact evalStep_boolop op vs ▸ matches_evalBool hA _ env vs _ h
  | binop _ op l r hop hl hrr =>
    rw [evalStep_binop]
    refine matches_bind (hA env l hl) fun lv => matches_bind (hA env r hrr) fun rv => sim_ite (sim_bad rfl) ?_
    obtain ⟨a, ha1, ha2⟩ := tableArith_doc hop
    rw [ha1, ha2]
    exact sim_lift _
  | not _ x hx =>
    rw [evalStep_not]
    exact matches_bind (hA env x hx) fun v => sim_pure _
  | compare _ l rest hl hops hS' =>
    rw [evalStep_compare]
    exact matches_bind (hA env l hl) fun lv => matches_evalChain hA env rest lv _ hops hS'
  | call | callGen =>
    rw [evalStep_call]
    exact matches_evalCall hA env hcall

theorem agree_interp (P : Prim) (rec : PVal) (fuel : Nat) :
    Agree rec (interp P fuel) (refEval P { compiled := false, record := rec } fuel) := by
  induction fuel with
  | zero => exact fun _ _ _ => sim_throw _
  | succ n ih => exact fun env e hS => matches_evalStep ih env e hS

end FlowRecord.Selector
