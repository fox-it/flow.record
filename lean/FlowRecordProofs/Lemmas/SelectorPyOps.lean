import FlowRecord.Model.Selector.PyOps
/-! Python's dispatch (`richcmp`, `pyIn`) with the missing-field sentinel as an operand: the two finite facts about the
    generated `NoneObject` method table, and their lifting to every other operand (C08). -/
namespace FlowRecord.Selector

variable {T : ClassTable} {op : CmpOp} {a b v x : PVal}

theorem sentinel_hooks : ∀ op ∈ CmpOp.all, sentinelRaw op.dunder = some "False" := by decide

theorem sentinel_contains_hook : sentinelRaw "__contains__" = some "False" := by decide

theorem sentinelCmp_false (op : CmpOp) (other : PVal) : sentinelCmp op other = .val (.bool false) := by
  have h := sentinel_hooks op (by cases op <;> simp [CmpOp.all])
  simp [sentinelCmp, h, constRes]

theorem sentinelContains_false : sentinelContains = .ok false := by
  simp [sentinelContains, sentinel_contains_hook, constRes, constTruthy]

theorem isId_missing_right : isId T a .missing = a.isMissing := by cases a <;> rfl

theorem slot_of_not_missing (h : a.isMissing = false) : slot T a op b = T.cmp a op b := by
  cases a <;> first | rfl | cases h

theorem richcmp_of_val (h : slot T a op b = .val v) : richcmp T op a b = .ok v := by
  unfold richcmp
  rw [h]

theorem richcmp_of_reflected (h1 : slot T a op b = .notImpl) (h2 : slot T b op.swap a = .val v) :
    richcmp T op a b = .ok v := by
  unfold richcmp
  rw [h1, h2]

theorem richcmp_missing_left : richcmp T op .missing v = .ok (.bool false) :=
  richcmp_of_val (sentinelCmp_false op v)

theorem richcmp_missing_right (hv : Foreign T v) : richcmp T op v .missing = .ok (.bool false) :=
  richcmp_of_reflected (hv op) (sentinelCmp_false op.swap v)

theorem pyIn_missing_right : pyIn T x .missing = .ok false := by
  simp [pyIn, sentinelContains_false]

theorem pyIn_other {c : PVal} (hm : c.isMissing = false) (hl : ∀ xs, c ≠ .list xs) (ht : ∀ xs, c ≠ .tuple xs) :
    pyIn T x c =
      match T.contains c with
      | some f => (f x).map (truthyOf T)
      | none =>
        match T.iter c with
        | some (.ok xs) => listContains T x xs
        | some (.error e) => .error e
        | none => .error (if c.isNone then .typeErrNone else .typeErr) := by
  unfold pyIn
  split
  · cases hm
  · exact absurd rfl (hl _)
  · exact absurd rfl (ht _)
  · rfl

theorem listContains_missing {xs : List PVal} (h : ∀ x ∈ xs, Foreign T x ∧ x.isMissing = false) :
    listContains T .missing xs = .ok false := by
  induction xs with
  | nil => rfl
  | cons el rest ih =>
    have hel := h el (by simp)
    simp only [listContains, isId_missing_right, hel.2, richcmp_missing_right hel.1, truthyOf]
    exact ih (fun x hx => h x (by simp [hx]))

end FlowRecord.Selector
