import FlowRecordProofs.Lemmas.MsgpackAny
import FlowRecord.Model.Wire
/-! The packer layer. R1 (`fromM_toM`): what `packb(default=pack_obj)` writes for an admissible packed-level value is
    unpacked by `unpackb(ext_hook=unpack_obj)` to exactly that value. It is proved in the form `Unpacks`, which
    composes. -/
open FlowRecord.Msgpack FlowRecord.Utf8
namespace FlowRecord.Wire

/-- text that survives `.encode('utf-8','surrogateescape')` / `.decode(…)` and fits a msgpack str -/
def strOK (s : PyStr) : Prop := ∃ b, encodeSE s = some b ∧ b.length < 4294967296 ∧ decodeSE b = s

-- The fuel `fromM` needs for what the packer writes, one per nesting level: an envelope costs one (its extension value)
-- on top of its payload. `need`, the bounds of the `Unpacks` combinators below, `need_le` and the fuel hypotheses of
-- `fromMList_members` spell out the same arithmetic and have to move together.
mutual
  def need : PV → Nat
    | .seq xs => 1 + needList xs
    | .dict xs => 1 + needList xs
    | .int i => if nativeInt i then 1 else 3
    | .dtUtc _ => 3
    | .dtIso _ => 3
    | .record _ vals => 3 + max 1 (needList vals)
    | .grouped _ ms => 5 + max 1 (needMembers ms)
    | .desc _ => 5
    | _ => 1
  def needList : List PV → Nat
    | [] => 0
    | x :: xs => max (need x) (needList xs)
  /-- members of a grouped record travel as bare `[identifier, values]` pairs -/
  def needMembers : List PV → Nat
    | [] => 0
    | .record _ vals :: xs => max (needList vals) (needMembers xs)
    | _ :: xs => needMembers xs
end

section
variable (reg : Registry) (f : Nat)

@[simp] theorem fromM_zero (v : MVal) : fromM reg 0 v = .error .invalid := by unfold fromM; rfl
@[simp] theorem fromM_nil : fromM reg (f + 1) .nil = .ok .none := by unfold fromM; rfl
@[simp] theorem fromM_bool (x : Bool) : fromM reg (f + 1) (.bool x) = .ok (.bool x) := by unfold fromM; rfl
@[simp] theorem fromM_int (i : Int) : fromM reg (f + 1) (.int i) = .ok (.int i) := by unfold fromM; rfl
@[simp] theorem fromM_f64 (x : Nat) : fromM reg (f + 1) (.f64 x) = .ok (.float x) := by unfold fromM; rfl
@[simp] theorem fromM_f32 (x : Nat) : fromM reg (f + 1) (.f32 x) = .ok (.float32 x) := by unfold fromM; rfl
@[simp] theorem fromM_str (p : Bytes) : fromM reg (f + 1) (.str p) = .ok (.str (decodeSE p)) := by unfold fromM; rfl
@[simp] theorem fromM_bin (p : Bytes) : fromM reg (f + 1) (.bin p) = .ok (.bytes p) := by unfold fromM; rfl

theorem fromM_arr (xs : List MVal) : fromM reg (f + 1) (.arr xs) = (fromMList reg f xs).map RV.tuple := by
  conv => lhs; unfold fromM

theorem fromM_map (xs : List MVal) : fromM reg (f + 1) (.map xs) = (fromMList reg f xs).map RV.dict := by
  conv => lhs; unfold fromM

@[simp] theorem fromMList_nil : fromMList reg f [] = .ok [] := by unfold fromMList; rfl

theorem fromMList_cons (x : MVal) (xs : List MVal) :
    fromMList reg f (x :: xs) = (match fromM reg f x, fromMList reg f xs with
      | .ok a, .ok r => .ok (a :: r)
      | .error e, _ => .error e
      | _, .error e => .error e) := by
  conv => lhs; unfold fromMList
  cases fromM reg f x <;> rfl

/-- what `fromM` does with the decoded payload document of an extension value -/
def afterDecode : Res MVal → Except Err RV
  | .ok (.arr [sub, value]) =>
    match fromM reg f sub, fromM reg f value with
    | .ok s, .ok v => unpackEnvelope reg s v
    | .error e, _ => .error e
    | _, .error e => .error e
  | .ok _ => .error .badShape
  | .incomplete => .error .incomplete
  | .invalid => .error .invalid

theorem afterDecode_pair (s v : MVal) :
    afterDecode reg f (.ok (.arr [s, v])) = (match fromM reg f s, fromM reg f v with
      | .ok a, .ok b => unpackEnvelope reg a b
      | .error e, _ => .error e
      | _, .error e => .error e) := by
  rfl

theorem fromM_ext (t : Nat) (p : Bytes) :
    fromM reg (f + 1) (.ext t p) = if t ≠ extType then .error .unknownExt else afterDecode reg f (decode p) := by
  conv => lhs; unfold fromM
  rfl
end

/-- What an envelope asks of its payload, and a frame of its body: msgpack can write `m` (so that the bytes are decoded
    to `m` again), and with fuel `n` or more `m` is unpacked to `v`. -/
structure Unpacks (reg : Registry) (n : Nat) (m : MVal) (v : RV) : Prop where
  wf : WF m
  unpack : ∀ f, n ≤ f → fromM reg f m = .ok v

structure UnpacksList (reg : Registry) (n : Nat) (ms : List MVal) (vs : List RV) : Prop where
  wf : WFList ms
  unpack : ∀ f, n ≤ f → fromMList reg f ms = .ok vs

section
variable {reg : Registry} {n k : Nat} {m x y : MVal} {v a b : RV} {xs : List MVal} {r : List RV}

theorem Unpacks.mono (h : Unpacks reg n m v) (hk : n ≤ k) : Unpacks reg k m v :=
  ⟨h.wf, fun f hf => h.unpack f (Nat.le_trans hk hf)⟩

theorem UnpacksList.mono (h : UnpacksList reg n xs r) (hk : n ≤ k) : UnpacksList reg k xs r :=
  ⟨h.wf, fun f hf => h.unpack f (Nat.le_trans hk hf)⟩

theorem Unpacks.succ (hw : WF m) (h : ∀ f, n ≤ f → fromM reg (f + 1) m = .ok v) : Unpacks reg (1 + n) m v :=
  ⟨hw, fun f hf => by
    obtain ⟨f, rfl⟩ : ∃ g, f = g + 1 := ⟨f - 1, by omega⟩
    exact h f (by omega)⟩

theorem Unpacks.leaf (hw : WF m) (h : ∀ f, fromM reg (f + 1) m = .ok v) : Unpacks reg 1 m v :=
  .succ (n := 0) hw fun f _ => h f

theorem UnpacksList.nil : UnpacksList reg n [] [] :=
  ⟨trivial, fun f _ => fromMList_nil reg f⟩

theorem UnpacksList.cons (hx : Unpacks reg n x a) (hxs : UnpacksList reg n xs r) :
    UnpacksList reg n (x :: xs) (a :: r) :=
  ⟨⟨hx.wf, hxs.wf⟩, fun f hf => by rw [fromMList_cons, hx.unpack f hf, hxs.unpack f hf]⟩

theorem Unpacks.arr (hl : xs.length < 4294967296) (h : UnpacksList reg n xs r) :
    Unpacks reg (1 + n) (.arr xs) (.tuple r) :=
  .succ ⟨hl, h.wf⟩ fun f hf => by rw [fromM_arr, h.unpack f hf]; rfl

theorem Unpacks.map (he : xs.length % 2 = 0) (hl : xs.length / 2 < 4294967296) (h : UnpacksList reg n xs r) :
    Unpacks reg (1 + n) (.map xs) (.dict r) :=
  .succ ⟨he, hl, h.wf⟩ fun f hf => by rw [fromM_map, h.unpack f hf]; rfl

theorem Unpacks.pair (hx : Unpacks reg n x a) (hy : Unpacks reg n y b) :
    Unpacks reg (1 + n) (.arr [x, y]) (.tuple [a, b]) :=
  .arr (by simp) (.cons hx (.cons hy .nil))
end

theorem decode_envelope (sub : Nat) (payload : MVal) (hsub : sub < 128) (hw : WF payload) :
    decode (enc (.arr [.int sub, payload])) = .ok (.arr [.int sub, payload]) :=
  decode_enc _ ⟨by simp, ⟨by omega, by omega⟩, hw, trivial⟩

theorem Unpacks.envelope {reg : Registry} {n sub : Nat} {payload : MVal} {v r : RV} (hsub : sub < 128)
    (h : Unpacks reg n payload v) (hsize : (enc (.arr [.int sub, payload])).length < 4294967296)
    (hr : unpackEnvelope reg (.int sub) v = .ok r) : Unpacks reg (1 + n) (envelope sub payload) r :=
  .succ ⟨by decide, hsize⟩ fun f hf => by
    have hv := h.unpack f hf
    cases f with
    | zero => rw [fromM_zero] at hv; cases hv
    | succ f =>
      rw [Wire.envelope, fromM_ext, if_neg (by simp), decode_envelope sub payload hsub h.wf, afterDecode_pair, fromM_int,
        hv]
      exact hr

/-- the branch of `unpack_obj`'s `if` ladder that a sub-type reaches: no tag equals one tested before it -/
theorem subtypes_distinct :
    (tVarint : Int) ≠ tDatetime ∧ (tRecord : Int) ≠ tDatetime ∧ (tRecord : Int) ≠ tVarint ∧
    (tGrouped : Int) ≠ tDatetime ∧ (tGrouped : Int) ≠ tVarint ∧ (tGrouped : Int) ≠ tRecord ∧
    (tDescriptor : Int) ≠ tDatetime ∧ (tDescriptor : Int) ≠ tVarint ∧ (tDescriptor : Int) ≠ tRecord ∧
    (tDescriptor : Int) ≠ tGrouped := by
  decide

section
variable (reg : Registry)

theorem unpackEnvelope_datetime (args : List RV) : unpackEnvelope reg (.int tDatetime) (.tuple args) = .ok (.dt args) := by
  simp [unpackEnvelope]

theorem unpackEnvelope_varint (neg : Bool) (h : Bytes) :
    unpackEnvelope reg (.int tVarint) (.tuple [.bool neg, .bytes h]) =
      .ok (.int (if neg then -(beDec h : Int) else (beDec h : Int))) := by
  simp [unpackEnvelope, subtypes_distinct]

theorem unpackEnvelope_record (ident : RV) (vals : List RV) (d : Desc) (h : lookupIdent reg ident = .ok d) :
    unpackEnvelope reg (.int tRecord) (.tuple [ident, .tuple vals]) = .ok (.record d (fitValues d vals)) := by
  simp [unpackEnvelope, subtypes_distinct, h]

/-- `unpack_obj` on one decoded member of a group: the identifier is looked up, the values are kept as they are -/
def unpackMember : RV → Except Err RV
  | .tuple [ident, .tuple vals] =>
    match lookupIdent reg ident with
    | .ok d => .ok (.record d vals)
    | .error e => .error e
  | _ => .error .badShape

theorem unpackEnvelope_grouped (name : PyStr) (tuples rs : List RV) (h : tuples.mapM (unpackMember reg) = .ok rs) :
    unpackEnvelope reg (.int tGrouped) (.tuple [.str name, .tuple tuples]) = .ok (.grouped name rs) := by
  -- the function the model maps over the members is `unpackMember reg`, so `h` decides its last `match`
  have : unpackEnvelope reg (.int tGrouped) (.tuple [.str name, .tuple tuples]) =
      match tuples.mapM (unpackMember reg) with
      | .ok rs => .ok (.grouped name rs)
      | .error e => .error e := rfl
  rw [this, h]

theorem unpackEnvelope_descriptor (name : PyStr) (fs : List RV) (fields : List (PyStr × PyStr))
    (h : fieldsOf fs = some fields) :
    unpackEnvelope reg (.int tDescriptor) (.tuple [.str name, .tuple fs]) = .ok (.desc name fields) := by
  simp [unpackEnvelope, subtypes_distinct, strOf, h]

theorem lookupIdent_pair {d : Desc} (h : lookup reg d.name d.hash = some d) :
    lookupIdent reg (.tuple [.str d.name, .int d.hash]) = .ok d := by
  simp [lookupIdent, strOf, h]
end

theorem beDec_magBytes (n : Nat) : beDec (magBytes n) = n := by
  induction n using magBytes.induct with
  | case1 => rw [magBytes, dif_pos rfl]; rfl
  | case2 n h ih =>
    rw [magBytes, dif_neg h, beDec, List.foldl_append, ← beDec, ih, List.foldl_cons, List.foldl_nil,
      toNat_ofNat_lt _ (Nat.mod_lt _ (by omega))]
    omega

theorem varint_roundtrip (i : Int) :
    (if decide (i < 0) then -(beDec (magBytes i.natAbs) : Int) else (beDec (magBytes i.natAbs) : Int)) = i := by
  rw [beDec_magBytes]
  by_cases h : i < 0 <;> simp [h] <;> omega

theorem mstr_ok (s : PyStr) (h : strOK s) :
    ∃ b, mstr s = some (.str b) ∧ ∀ reg, Unpacks reg 1 (.str b) (.str s) := by
  obtain ⟨b, h1, h2, rfl⟩ := h
  exact ⟨b, by simp [mstr, h1], fun reg => .leaf h2 (fromM_str reg · b)⟩

theorem identM_ok (d : Desc) (hname : strOK d.name) (hhash : d.hash < 18446744073709551616) {i : MVal}
    (hi : identM d = some i) (reg : Registry) : Unpacks reg 2 i (.tuple [.str d.name, .int d.hash]) := by
  obtain ⟨nb, hn1, hn2⟩ := mstr_ok d.name hname
  simp only [identM, hn1, Option.bind_eq_bind, Option.bind_some, Option.pure_def, Option.some.injEq] at hi
  subst hi
  exact .pair (hn2 reg) (.leaf ⟨by omega, by omega⟩ (fromM_int reg · _))

theorem recordPair_unpacks {reg : Registry} (d : Desc) (hname : strOK d.name) (hhash : d.hash < 18446744073709551616)
    {i : MVal} (hi : identM d = some i) {vs : List MVal} {rs : List RV} {n : Nat} (hl : vs.length < 4294967296)
    (hvs : UnpacksList reg n vs rs) :
    Unpacks reg (1 + max 2 (1 + n)) (.arr [i, .arr vs]) (.tuple [.tuple [.str d.name, .int d.hash], .tuple rs]) :=
  .pair ((identM_ok d hname hhash hi reg).mono (Nat.le_max_left ..)) ((Unpacks.arr hl hvs).mono (Nat.le_max_right ..))

-- What can be written and read back unchanged (packed level): text in the image of decode/surrogateescape,
-- lengths a msgpack header can carry, envelope payloads below 4 GiB, and — for records — a registry in which the
-- record's identifier is bound to its own descriptor; a grouped record's members likewise. Descriptor objects are left
-- out (`.desc _ => False`): they travel in frames of their own and have `Stream.DescOK`.
mutual
  def PVOK (reg : Registry) : PV → Prop
    | .none => True
    | .bool _ => True
    | .int i => nativeInt i = true ∨ ((magBytes i.natAbs).length < 4294967296 ∧
        (enc (.arr [.int tVarint, .arr [.bool (decide (i < 0)), .bin (magBytes i.natAbs)]])).length < 4294967296)
    | .float x => x < 18446744073709551616
    | .str s => strOK s
    | .bytes b => b.length < 4294967296
    | .seq xs => xs.length < 4294967296 ∧ PVOKList reg xs
    | .dict xs => xs.length % 2 = 0 ∧ xs.length / 2 < 4294967296 ∧ PVOKList reg xs
    | .dtUtc fs => fs.length < 4294967296 ∧ (∀ n ∈ fs, n < 9223372036854775808) ∧
        (enc (.arr [.int tDatetime, .arr (fs.map fun n => MVal.int (Int.ofNat n))])).length < 4294967296
    | .dtIso t => strOK t ∧ ∀ b, mstr t = some (.str b) →
        (enc (.arr [.int tDatetime, .arr [.str b]])).length < 4294967296
    | .record d vals => strOK d.name ∧ d.hash < 18446744073709551616 ∧ lookup reg d.name d.hash = some d ∧
        vals.length ≤ d.slotCount + Gen.RESERVED_FIELDS.length ∧ vals.length < 4294967296 ∧ PVOKList reg vals ∧
        (∀ i vs, identM d = some i → toMList vals = some vs →
          (enc (.arr [.int tRecord, .arr [i, .arr vs]])).length < 4294967296)
    | .grouped name ms => strOK name ∧ ms.length < 4294967296 ∧ PVOKMembers reg ms ∧
        (∀ n members, mstr name = some n → toMMembers ms = some members →
          (enc (.arr [.int tGrouped, .arr [n, .arr members]])).length < 4294967296)
    | .desc _ => False
  def PVOKList (reg : Registry) : List PV → Prop
    | [] => True
    | x :: xs => PVOK reg x ∧ PVOKList reg xs
  /-- members of a grouped record: records whose identifiers are bound to their own descriptors (their values are not
      cut or padded to the descriptor's length on reading, unlike those of a top-level record) -/
  def PVOKMembers (reg : Registry) : List PV → Prop
    | [] => True
    | .record d vals :: xs => strOK d.name ∧ d.hash < 18446744073709551616 ∧ lookup reg d.name d.hash = some d ∧
        vals.length < 4294967296 ∧ PVOKList reg vals ∧ PVOKMembers reg xs
    | _ :: _ => False
end

section
variable {d : Desc} {vals ms xs : List PV} {x : PV} {name : PyStr} {m : MVal} {l : List MVal}

theorem toM_record_eq_some : toM (.record d vals) = some m ↔
    ∃ i, identM d = some i ∧ ∃ vs, toMList vals = some vs ∧ envelope tRecord (.arr [i, .arr vs]) = m := by
  simp only [toM, Option.bind_eq_bind, Option.bind_eq_some_iff, Option.pure_def, Option.some.injEq]

theorem toM_grouped_eq_some : toM (.grouped name ms) = some m ↔
    ∃ n, mstr name = some n ∧ ∃ members, toMMembers ms = some members ∧ envelope tGrouped (.arr [n, .arr members]) = m := by
  simp only [toM, Option.bind_eq_bind, Option.bind_eq_some_iff, Option.pure_def, Option.some.injEq]

theorem toMList_cons_eq_some : toMList (x :: xs) = some l ↔
    ∃ a, toM x = some a ∧ ∃ r, toMList xs = some r ∧ a :: r = l := by
  simp only [toMList, Option.bind_eq_bind, Option.bind_eq_some_iff, Option.pure_def, Option.some.injEq]

theorem toMMembers_cons_eq_some : toMMembers (.record d vals :: xs) = some l ↔
    ∃ i, identM d = some i ∧ ∃ vs, toMList vals = some vs ∧ ∃ r, toMMembers xs = some r ∧ .arr [i, .arr vs] :: r = l := by
  simp only [toMMembers, Option.bind_eq_bind, Option.bind_eq_some_iff, Option.pure_def, Option.some.injEq]
end

theorem toMList_length {xs : List PV} {ms : List MVal} (hm : toMList xs = some ms) : ms.length = xs.length := by
  induction xs generalizing ms with
  | nil => cases hm; rfl
  | cons x xs ih =>
    obtain ⟨a, _, r, hr, rfl⟩ := toMList_cons_eq_some.mp hm
    simp [ih hr]

/-- what the members of a grouped record look like after msgpack decoding, before `unpack_obj` -/
def memberTuples : List PV → List RV
  | [] => []
  | .record d vals :: xs =>
    RV.tuple [.tuple [.str d.name, .int d.hash], .tuple (rvOfList vals)] :: memberTuples xs
  | _ :: xs => memberTuples xs

theorem members_lookup (reg : Registry) (ms : List PV) (hok : PVOKMembers reg ms) :
    (memberTuples ms).mapM (unpackMember reg) = .ok (rvOfList ms) := by
  induction ms with
  | nil => rfl
  | cons x xs ih =>
    cases x with
    | record d vals =>
      obtain ⟨-, -, hlook, -, -, hrest⟩ := hok
      simp only [memberTuples, List.mapM_cons, unpackMember, lookupIdent_pair reg hlook, ih hrest, rvOfList, rvOf]
      rfl
    | _ => exact hok.elim

theorem ints_unpacks (reg : Registry) (fs : List Nat) (h : ∀ n ∈ fs, n < 9223372036854775808) :
    UnpacksList reg 1 (fs.map fun n => MVal.int (Int.ofNat n)) (fs.map fun n => RV.int (Int.ofNat n)) := by
  induction fs with
  | nil => exact .nil
  | cons a l ih =>
    refine .cons (.leaf ?_ (fromM_int reg · _)) (ih fun n hn => h n (by simp [hn]))
    have := h a (by simp)
    simp only [WF, Int.ofNat_eq_natCast]; omega

theorem fitValues_id (d : Desc) (vals : List RV)
    (h : vals.length ≤ d.slotCount + Gen.RESERVED_FIELDS.length) : fitValues d vals = vals := by
  unfold fitValues
  rw [if_neg (by omega)]

theorem rvOfList_eq_map (xs : List PV) : rvOfList xs = xs.map rvOf := by
  induction xs with
  | nil => rfl
  | cons x xs ih => simp [rvOfList, ih]

theorem rvOfList_append (xs ys : List PV) : rvOfList (xs ++ ys) = rvOfList xs ++ rvOfList ys := by
  rw [rvOfList_eq_map, rvOfList_eq_map, rvOfList_eq_map, List.map_append]

theorem rvOfList_length (xs : List PV) : (rvOfList xs).length = xs.length := by
  rw [rvOfList_eq_map, List.length_map]

mutual
theorem toM_unpacks {reg : Registry} {pv : PV} {m : MVal} (hok : PVOK reg pv) (hm : toM pv = some m) :
    Unpacks reg (need pv) m (rvOf pv) := by
  match pv, hok, hm with
  | .none, _, hm => cases hm; exact .leaf trivial (fromM_nil reg)
  | .bool b, _, hm => cases hm; exact .leaf trivial (fromM_bool reg · b)
  | .float x, hok, hm => cases hm; exact .leaf hok (fromM_f64 reg · x)
  | .bytes b, hok, hm => cases hm; exact .leaf hok (fromM_bin reg · b)
  | .str s, hok, hm =>
    obtain ⟨b, h1, h2⟩ := mstr_ok s hok
    cases h1.symm.trans hm
    exact h2 reg
  | .int i, hok, hm =>
    simp only [toM] at hm
    split at hm <;> cases hm
    · next hn => exact .mono (.leaf (by simpa [nativeInt, WF] using hn) (fromM_int reg · i)) (by simp [need, hn])
    · next hn =>
      obtain ⟨hl, hsize⟩ := hok.resolve_left hn
      refine .mono (.envelope (by decide) (.pair (.leaf trivial (fromM_bool reg · _)) (.leaf hl (fromM_bin reg · _)))
        hsize ?_) (by simp [need, hn])
      rw [unpackEnvelope_varint, varint_roundtrip]
      rfl
  | .dtUtc fs, ⟨hlen, hfit, hsize⟩, hm =>
    cases hm
    exact .envelope (by decide) (.arr (by simpa using hlen) (ints_unpacks reg fs hfit)) hsize
      (unpackEnvelope_datetime reg _)
  | .dtIso t, hok, hm =>
    obtain ⟨b, h1, h2⟩ := mstr_ok t hok.1
    simp only [toM, h1, Option.map_some, Option.some.injEq] at hm; subst hm
    exact .envelope (by decide) (.arr (by simp) (.cons (h2 reg) .nil)) (hok.2 b h1) (unpackEnvelope_datetime reg _)
  | .seq xs, hok, hm =>
    obtain ⟨ms, h1, rfl⟩ := Option.map_eq_some_iff.mp hm
    exact .arr (toMList_length h1 ▸ hok.1) (toMList_unpacks hok.2 h1)
  | .dict xs, ⟨heven, hlen, hxs⟩, hm =>
    obtain ⟨ms, h1, rfl⟩ := Option.map_eq_some_iff.mp hm
    have hl := toMList_length h1
    exact .map (hl ▸ heven) (hl ▸ hlen) (toMList_unpacks hxs h1)
  | .record d vals, ⟨hname, hhash, hlook, hfit, hlen, hvals, hsize⟩, hm =>
    obtain ⟨i, hi, vs, hv, rfl⟩ := toM_record_eq_some.mp hm
    refine .mono (.envelope (by decide) (recordPair_unpacks d hname hhash hi (toMList_length hv ▸ hlen)
      (toMList_unpacks hvals hv)) (hsize i vs hi hv) ?_) (by rw [need]; omega)
    rw [unpackEnvelope_record reg _ _ d (lookupIdent_pair reg hlook),
      fitValues_id d _ (by rw [rvOfList_length]; exact hfit)]
    rfl
  | .grouped name ms, ⟨hname, hlen, hmem, hsize⟩, hm =>
    obtain ⟨n, hn, members, hv, rfl⟩ := toM_grouped_eq_some.mp hm
    obtain ⟨nb, hn1, hn2⟩ := mstr_ok name hname
    cases hn1.symm.trans hn
    obtain ⟨hms, hml⟩ := toMMembers_unpacks hmem hv
    exact .mono (.envelope (by decide) (.pair ((hn2 reg).mono (by omega)) (.arr (hml ▸ hlen) hms)) (hsize _ _ hn hv)
      (unpackEnvelope_grouped reg name _ _ (members_lookup reg ms hmem))) (by rw [need]; omega)
  | .desc _, hok, _ => exact hok.elim
theorem toMMembers_unpacks {reg : Registry} {ms : List PV} {members : List MVal} (hok : PVOKMembers reg ms)
    (hm : toMMembers ms = some members) :
    UnpacksList reg (2 + max 1 (needMembers ms)) members (memberTuples ms) ∧ members.length = ms.length := by
  match ms, hok, hm with
  | [], _, hm => cases hm; exact ⟨.nil, rfl⟩
  | x :: xs, hok, hm =>
    cases x with
    | record d vals =>
      obtain ⟨hname, hhash, -, hlen, hvals, hrest⟩ := hok
      obtain ⟨i, hi, vs, hv, r, hr, rfl⟩ := toMMembers_cons_eq_some.mp hm
      obtain ⟨h1, h2⟩ := toMMembers_unpacks hrest hr
      have hp := recordPair_unpacks d hname hhash hi (toMList_length hv ▸ hlen) (toMList_unpacks hvals hv)
      simp only [needMembers]
      exact ⟨.cons (hp.mono (by omega)) (h1.mono (by omega)), by simp [h2]⟩
    | _ => exact hok.elim
theorem toMList_unpacks {reg : Registry} {xs : List PV} {ms : List MVal} (hok : PVOKList reg xs)
    (hm : toMList xs = some ms) : UnpacksList reg (needList xs) ms (rvOfList xs) := by
  match xs, hok, hm with
  | [], _, hm => cases hm; exact .nil
  | x :: xs, hok, hm =>
    obtain ⟨a, ha, r, hr, rfl⟩ := toMList_cons_eq_some.mp hm
    exact .cons ((toM_unpacks hok.1 ha).mono (Nat.le_max_left ..))
      ((toMList_unpacks hok.2 hr).mono (Nat.le_max_right ..))
end

theorem toM_WF {reg : Registry} {pv : PV} {m : MVal} (hok : PVOK reg pv) (hm : toM pv = some m) : WF m :=
  (toM_unpacks hok hm).wf

/-- R1. -/
theorem fromM_toM (reg : Registry) (pv : PV) (m : MVal) (f : Nat) (hok : PVOK reg pv) (hm : toM pv = some m)
    (hf : need pv ≤ f) : fromM reg f m = .ok (rvOf pv) :=
  (toM_unpacks hok hm).unpack f hf

theorem fromMList_members (reg : Registry) (ms : List PV) (members : List MVal) (f : Nat) (hok : PVOKMembers reg ms)
    (hm : toMMembers ms = some members) (hf : needMembers ms ≤ f) (hf1 : 1 ≤ f) :
    fromMList reg (f + 2) members = .ok (memberTuples ms) :=
  (toMMembers_unpacks hok hm).1.unpack _ (by omega)

theorem fromMList_toMList (reg : Registry) (xs : List PV) (ms : List MVal) (f : Nat) (hok : PVOKList reg xs)
    (hm : toMList xs = some ms) (hf : needList xs ≤ f) : fromMList reg f ms = .ok (rvOfList xs) :=
  (toMList_unpacks hok hm).unpack f hf

theorem enc_envelope_length (sub : Nat) (payload : MVal) :
    4 + (enc payload).length ≤ (enc (envelope sub payload)).length := by
  have h1 := extHead_length_ge extType (enc (.arr [.int sub, payload])).length
  have h2 := enc_pair_ge (.int sub) payload
  have h3 := enc_pos (.int sub)
  unfold envelope
  generalize enc (.arr [.int sub, payload]) = p at h1 h2 ⊢
  simp only [enc, List.length_append]
  omega

-- Every level of nesting, and every envelope, costs at least as many bytes as it costs fuel; no admissibility needed.
mutual
theorem need_le {pv : PV} {m : MVal} (hm : toM pv = some m) : need pv ≤ (enc m).length := by
  have h1 := enc_pos m
  match pv with
  | .none | .bool _ | .float _ | .bytes _ | .str _ => simpa only [need] using h1
  | .int i =>
    simp only [toM] at hm; simp only [need]
    split at hm <;> rename_i hn <;> cases hm
    · rw [if_pos hn]; exact h1
    · rw [if_neg hn]
      have := enc_envelope_length tVarint (.arr [.bool (decide (i < 0)), .bin (magBytes i.natAbs)]); omega
  | .dtUtc fs =>
    cases hm
    have := enc_envelope_length tDatetime (.arr (fs.map fun n => MVal.int (Int.ofNat n)))
    simp only [need]; omega
  | .dtIso t =>
    obtain ⟨s, -, rfl⟩ := Option.map_eq_some_iff.mp hm
    have := enc_envelope_length tDatetime (.arr [s])
    simp only [need]; omega
  | .seq xs =>
    obtain ⟨ms, h, rfl⟩ := Option.map_eq_some_iff.mp hm
    have := needList_le h; have := enc_arr_ge ms
    simp only [need]; omega
  | .dict xs =>
    obtain ⟨ms, h, rfl⟩ := Option.map_eq_some_iff.mp hm
    have := needList_le h; have := enc_map_ge ms
    simp only [need]; omega
  | .record d vals =>
    obtain ⟨i, -, vs, hv, rfl⟩ := toM_record_eq_some.mp hm
    have := needList_le hv; have := enc_envelope_length tRecord (.arr [i, .arr vs])
    have := enc_pair_ge i (.arr vs); have := enc_arr_ge vs
    simp only [need]; omega
  | .grouped name ms =>
    obtain ⟨n, -, members, hv, rfl⟩ := toM_grouped_eq_some.mp hm
    have := needMembers_le hv; have := enc_envelope_length tGrouped (.arr [n, .arr members])
    have := enc_pair_ge n (.arr members); have := enc_arr_ge members
    simp only [need]; omega
  | .desc d =>
    obtain ⟨p, -, rfl⟩ := Option.map_eq_some_iff.mp hm
    have := enc_envelope_length tDescriptor p; have := enc_pos p
    simp only [need]; omega
theorem needMembers_le {ms : List PV} {members : List MVal} (hm : toMMembers ms = some members) :
    needMembers ms ≤ (encList members).length := by
  match ms with
  | [] => exact Nat.zero_le _
  | x :: xs =>
    cases x with
    | record d vals =>
      obtain ⟨i, -, vs, hv, r, hr, rfl⟩ := toMMembers_cons_eq_some.mp hm
      have := needList_le hv; have := needMembers_le hr
      have := enc_pair_ge i (.arr vs); have := enc_arr_ge vs
      simp only [needMembers, encList, List.length_append]; omega
    | _ => cases hm
theorem needList_le {xs : List PV} {ms : List MVal} (hm : toMList xs = some ms) :
    needList xs ≤ (encList ms).length := by
  match xs with
  | [] => exact Nat.zero_le _
  | x :: xs =>
    obtain ⟨a, ha, r, hr, rfl⟩ := toMList_cons_eq_some.mp hm
    have := need_le ha; have := needList_le hr
    simp only [needList, encList, List.length_append]; omega
end

theorem fieldM_mapM_ok (fs : List (PyStr × PyStr)) (h : ∀ p ∈ fs, strOK p.1 ∧ strOK p.2) :
    ∃ ms : List MVal, fs.mapM fieldM = some ms ∧ ms.length = fs.length ∧
      ∀ reg, UnpacksList reg 2 ms (fs.map fun p => RV.tuple [.str p.1, .str p.2]) := by
  induction fs with
  | nil => exact ⟨[], by simp, rfl, fun _ => .nil⟩
  | cons p ps ih =>
    obtain ⟨ms, h1, h2, h3⟩ := ih (fun q hq => h q (by simp [hq]))
    obtain ⟨a, ha1, ha2⟩ := mstr_ok p.1 (h p (by simp)).1
    obtain ⟨b, hb1, hb2⟩ := mstr_ok p.2 (h p (by simp)).2
    refine ⟨.arr [.str a, .str b] :: ms, ?_, by simp [h2], fun reg => .cons (.pair (ha2 reg) (hb2 reg)) (h3 reg)⟩
    simp [fieldM, ha1, hb1, h1]

theorem fieldsOf_tuples (fs : List (PyStr × PyStr)) :
    fieldsOf (fs.map fun p => RV.tuple [.str p.1, .str p.2]) = some fs := by
  unfold fieldsOf
  induction fs with
  | nil => rfl
  | cons p ps ih =>
    rw [List.map_cons, List.mapM_cons, ih]
    simp [fieldOf, strOf]

end FlowRecord.Wire

open FlowRecord.Wire
-- `DescOK` is what `PVOK` leaves out; it is named with the stream notions that ask for it (`FramesOK`, `HistOK`).
namespace FlowRecord.Stream

/-- a descriptor whose name and field (type, name) texts survive the text codec -/
def DescOK (d : Desc) : Prop :=
  strOK d.name ∧ (∀ p ∈ d.fields, strOK p.1 ∧ strOK p.2) ∧ d.fields.length < 4294967296 ∧
  (∀ m, descPayload d = some m → (enc (.arr [.int tDescriptor, m])).length < 4294967296)

theorem fromM_desc (reg : Registry) {d : Desc} {m : MVal} {f : Nat} (hok : DescOK d) (hm : toM (.desc d) = some m)
    (hf : need (.desc d) ≤ f) : WF m ∧ fromM reg f m = .ok (.desc d.name d.fields) := by
  obtain ⟨hname, hfields, hlen, hsize⟩ := hok
  obtain ⟨nb, hn1, hn2⟩ := mstr_ok d.name hname
  obtain ⟨ms, hm1, hm2, hm3⟩ := fieldM_mapM_ok d.fields hfields
  have hp : descPayload d = some (.arr [.str nb, .arr ms]) := by simp [descPayload, hn1, hm1]
  simp only [toM, hp, Option.map_some, Option.some.injEq] at hm
  subst hm
  have h := Unpacks.envelope (by decide) (.pair ((hn2 reg).mono (by omega)) (.arr (hm2 ▸ hlen) (hm3 reg)))
    (hsize _ hp) (unpackEnvelope_descriptor reg _ _ _ (fieldsOf_tuples d.fields))
  exact ⟨h.wf, h.unpack f hf⟩

end FlowRecord.Stream
