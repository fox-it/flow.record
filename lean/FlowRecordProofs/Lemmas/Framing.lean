import FlowRecordProofs.Lemmas.Msgpack
import FlowRecord.Model.Stream
/-! Frames: a 4-byte big-endian length, then the body. The view in whole frames (`IsPartialFrame`, `splitFrames_*`,
    `take_stream`) serves C04's frame-level theorems only: the history theorems place the cut by `CutAt`. -/
open FlowRecord.Msgpack
namespace FlowRecord.Stream

@[simp] theorem frameBytes_length (body : Bytes) : (frameBytes body).length = 4 + body.length := by
  simp [frameBytes]

@[simp] theorem streamOf_nil : streamOf [] = [] := rfl

@[simp] theorem streamOf_cons (b : Bytes) (bs : List Bytes) : streamOf (b :: bs) = frameBytes b ++ streamOf bs := rfl

theorem streamOf_append (a b : List Bytes) : streamOf (a ++ b) = streamOf a ++ streamOf b :=
  List.flatMap_append

theorem length_le_streamOf (frames : List Bytes) : frames.length ≤ (streamOf frames).length := by
  induction frames with
  | nil => simp
  | cons f fs ih => simp; omega

theorem nextFrame_eq_none_iff (bs : Bytes) : nextFrame bs = none ↔ bs.length < 4 := by
  unfold nextFrame
  split <;> simp [*]

theorem nextFrame_rest_length {bs body rest : Bytes} (h : nextFrame bs = some (body, rest)) :
    rest.length + 4 ≤ bs.length := by
  unfold nextFrame at h
  split at h
  · cases h
  · cases h; rw [List.length_drop, List.length_drop]; omega

theorem nextFrame_beEnc (n : Nat) (bs : Bytes) (h : n < 4294967296) :
    nextFrame (beEnc 4 n ++ bs) = some (bs.take n, bs.drop n) := by
  have hl : ¬ (beEnc 4 n ++ bs).length < 4 := by simp
  simp only [nextFrame, if_neg hl, List.take_left' (beEnc_length 4 n), List.drop_left' (beEnc_length 4 n),
    beDec_beEnc 4 n (by omega)]

theorem nextFrame_frame (body rest : Bytes) (h : body.length < 4294967296) :
    nextFrame (frameBytes body ++ rest) = some (body, rest) := by
  rw [frameBytes, List.append_assoc, nextFrame_beEnc _ _ h, List.take_left' rfl, List.drop_left' rfl]

theorem frameBytes_take (body : Bytes) (j : Nat) (h4 : 4 ≤ j) :
    (frameBytes body).take j = beEnc 4 body.length ++ body.take (j - 4) := by
  rw [frameBytes, List.take_append, List.take_of_length_le (by simp; omega), beEnc_length]

theorem isPartialFrame_take (body : Bytes) (j : Nat) (hl : body.length < 4294967296)
    (hj : j < (frameBytes body).length) : IsPartialFrame ((frameBytes body).take j) := by
  rw [frameBytes_length] at hj
  by_cases h4 : j < 4
  · exact .inl (Nat.lt_of_le_of_lt (List.length_take_le _ _) h4)
  · exact .inr ⟨body.length, body.take (j - 4), hl, frameBytes_take body j (Nat.le_of_not_lt h4),
      Nat.lt_of_le_of_lt (List.length_take_le _ _) (by omega)⟩

theorem nextFrame_partial {p : Bytes} (hp : IsPartialFrame p) :
    nextFrame p = none ∨ ∃ body rest, nextFrame p = some (body, rest) ∧ body.length < beDec (p.take 4) := by
  rcases hp with h | ⟨n, body, hn, rfl, hb⟩
  · exact .inl ((nextFrame_eq_none_iff p).mpr h)
  · refine .inr ⟨body.take n, body.drop n, nextFrame_beEnc n body hn, ?_⟩
    rw [List.take_left' (beEnc_length 4 n), beDec_beEnc 4 n hn]
    exact Nat.lt_of_le_of_lt (List.length_take_le' _ _) hb

theorem splitFrames_partial {p : Bytes} (fuel : Nat) (hp : IsPartialFrame p) : splitFrames fuel p = ([], p) := by
  cases fuel with
  | zero => rfl
  | succ fuel =>
    rcases nextFrame_partial hp with h | ⟨body, rest, h, hb⟩
    · rw [splitFrames, h]
    · rw [splitFrames, h]; exact if_pos hb

theorem splitFrames_frame {f : Bytes} (rest : Bytes) (fuel : Nat) (hl : f.length < 4294967296) :
    splitFrames (fuel + 1) (frameBytes f ++ rest) = (f :: (splitFrames fuel rest).1, (splitFrames fuel rest).2) := by
  rw [splitFrames, nextFrame_frame f _ hl]
  refine if_neg ?_
  rw [frameBytes, List.append_assoc, List.take_left' (beEnc_length 4 _), beDec_beEnc 4 _ hl]
  exact Nat.lt_irrefl _

theorem splitFrames_stream (frames : List Bytes) (p : Bytes) (fuel : Nat)
    (hsz : ∀ f ∈ frames, f.length < 4294967296) (hp : IsPartialFrame p) (hf : frames.length ≤ fuel) :
    splitFrames fuel (streamOf frames ++ p) = (frames, p) := by
  induction frames generalizing fuel with
  | nil => exact splitFrames_partial fuel hp
  | cons f fs ih =>
    obtain ⟨fuel, rfl⟩ := Nat.exists_eq_add_of_le' (Nat.lt_of_lt_of_le (Nat.succ_pos _) hf)
    rw [streamOf_cons, List.append_assoc, splitFrames_frame _ _ (hsz f (by simp)),
      ih fuel (fun g hg => hsz g (by simp [hg])) (Nat.le_of_succ_le_succ hf)]

theorem take_stream (frames : List Bytes) (k : Nat) (hk : k < (streamOf frames).length) :
    ∃ pre f post j, frames = pre ++ f :: post ∧ j < (frameBytes f).length ∧
      (streamOf frames).take k = streamOf pre ++ (frameBytes f).take j := by
  induction frames generalizing k with
  | nil => simp at hk
  | cons f fs ih =>
    rw [streamOf_cons, List.length_append] at hk
    by_cases h : k < (frameBytes f).length
    · exact ⟨[], f, fs, k, rfl, h, by simp [List.take_append_of_le_length (Nat.le_of_lt h)]⟩
    · obtain ⟨k, rfl⟩ := Nat.exists_eq_add_of_le (Nat.le_of_not_lt h)
      obtain ⟨pre, g, post, j, rfl, hj, ht⟩ := ih k (Nat.lt_of_add_lt_add_left hk)
      refine ⟨f :: pre, g, post, j, rfl, hj, ?_⟩
      rw [streamOf_cons, List.take_length_add_append, ht, streamOf_cons, List.append_assoc]

end FlowRecord.Stream
