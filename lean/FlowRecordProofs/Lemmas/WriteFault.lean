import FlowRecord.Model.Stream
/-! A failing or short write on the writer's file object leaves a PREFIX of the stream on disk, whatever the chunking
    of the stream into write calls. -/
namespace FlowRecord.Stream

/-- what is on disk when write call number `i` accepts only `j` of its bytes (`j = 0`: it failed outright) and
    nothing is written afterwards -/
def diskAfterFault (calls : List Bytes) (i j : Nat) : Bytes :=
  (calls.take i).flatten ++ ((calls[i]?).getD []).take j

theorem diskAfterFault_prefix (calls : List Bytes) (i j : Nat) : diskAfterFault calls i j <+: calls.flatten := by
  -- the calls before `i`, then those from `i` on, of which only the first matters
  have hc : calls.flatten = (calls.take i).flatten ++ (calls.drop i).flatten := by
    rw [← List.flatten_append, List.take_append_drop]
  rw [diskAfterFault, hc, List.prefix_append_right_inj, ← List.head?_drop]
  cases calls.drop i with
  | nil => simp
  | cons x B => exact (List.take_prefix j x).trans (List.prefix_append x _)

/-- the two calls `RecordStreamWriter.write` makes per frame: the 4-byte length, then the blob -/
def writeCalls (frames : List Bytes) : List Bytes := frames.flatMap fun b => [beEnc 4 b.length, b]

theorem writeCalls_flatten (frames : List Bytes) : (writeCalls frames).flatten = streamOf frames := by
  induction frames with
  | nil => rfl
  | cons f fs ih =>
    simp only [writeCalls, List.flatMap_cons, streamOf, frameBytes] at ih ⊢
    simp [ih]

end FlowRecord.Stream
