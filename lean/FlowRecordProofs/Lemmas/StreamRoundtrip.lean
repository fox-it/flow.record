import FlowRecordProofs.Lemmas.Envelope
import FlowRecordProofs.Lemmas.Framing
import FlowRecordProofs.Lemmas.Registry
/-! The stream theorem at the level of frames: what a frame decodes to, and the simulation `read_frames`: over the
    encoded frames of the abstract writer (`emit`, C03) the byte-level reader does what the abstract reader does. -/
open FlowRecord.Msgpack FlowRecord.Utf8 FlowRecord.Wire
namespace FlowRecord.Stream

theorem needMembers_le_length (reg : Registry) (ms : List PV) (members : List MVal) (hok : PVOKMembers reg ms)
    (hm : toMMembers ms = some members) : needMembers ms ≤ (encList members).length :=
  needMembers_le hm

theorem needList_le_length (reg : Registry) (xs : List PV) (ms : List MVal) (hok : PVOKList reg xs)
    (hm : toMList xs = some ms) : needList xs ≤ (encList ms).length :=
  needList_le hm

theorem decodeFrame_enc (reg : Registry) {m : MVal} (hw : WF m) :
    decodeFrame reg (enc m) = fromM reg ((enc m).length + 2) m := by
  rw [decodeFrame, decode_enc m hw]

theorem decodeFrame_take (reg : Registry) {m : MVal} {k : Nat} (hw : WF m) (hk : k < (enc m).length) :
    decodeFrame reg ((enc m).take k) = .error .incomplete := by
  rw [decodeFrame, decode_take m k hw hk]

theorem decodeFrame_obj {reg : Registry} {pv : PV} {m : MVal} (hok : PVOK reg pv) (hm : toM pv = some m) :
    decodeFrame reg (enc m) = .ok (rvOf pv) := by
  rw [decodeFrame_enc reg (toM_WF hok hm)]
  exact fromM_toM reg pv m _ hok hm (Nat.le_trans (need_le hm) (Nat.le_add_right _ 2))

theorem decodeFrame_desc (reg : Registry) {d : Desc} {m : MVal} (hok : DescOK d) (hm : toM (.desc d) = some m) :
    decodeFrame reg (enc m) = .ok (.desc d.name d.fields) := by
  obtain ⟨hw, hfm⟩ := fromM_desc reg hok hm (Nat.le_trans (need_le hm) (Nat.le_add_right _ 2))
  rw [decodeFrame_enc reg hw]
  exact hfm

/-- the header frame decodes to the magic bytes: what `readFramesH` tests for in its `.bytes` branch, which no theorem
    here reaches, `readHeader` having taken the header off -/
theorem decodeFrame_magic (reg : Registry) : decodeFrame reg magicBody = .ok (.bytes Gen.RECORDSTREAM_MAGIC) := by
  rw [magicBody, decodeFrame_enc reg (by simp [WF]; decide)]
  exact fromM_bin reg _ _

/-- what a stream carries as objects: records and grouped records. `FramesOK` asks for it because `readFramesH` tests
    a decoded value for `.bytes` (the magic) and `.desc` before it yields it: `read_frame` has to know that `rvOf o` is
    neither. -/
def IsObj (o : PV) : Prop := (∃ d vals, o = .record d vals) ∨ (∃ name ms, o = .grouped name ms)

def objsOf (afs : List AFrame) : List PV := afs.filterMap fun | .obj o => some o | .desc _ => none

theorem objsOf_descs (ds : List Desc) : objsOf (ds.map .desc) = [] := by
  simp [objsOf, List.filterMap_map, Function.comp_def]

theorem objsOf_emit (reg : Registry) (o : PV) : objsOf (emit reg o).2 = [o] := by
  rw [emit, objsOf, List.filterMap_append, ← objsOf, objsOf_descs]; rfl

/-- frames the reader can take in, starting from the registry `reg`: descriptors that are encodable and hashed by the
    reader as by the writer, objects admissible in the registry in force when their frame arrives -/
def FramesOK (hashOf : PyStr → List (PyStr × PyStr) → Nat) : Registry → List AFrame → Prop
  | _, [] => True
  | reg, .desc d :: fs => (DescOK d ∧ hashOf d.name d.fields = d.hash) ∧ FramesOK hashOf (regInsert reg d) fs
  | reg, .obj o :: fs => (IsObj o ∧ PVOK reg o) ∧ FramesOK hashOf reg fs

section
variable {hashOf : PyStr → List (PyStr × PyStr) → Nat}

theorem read_short {fuel : Nat} {reg : Registry} {bs : Bytes} (h : bs.length < 4) :
    readFramesH hashOf fuel reg bs = ([], .eof) := by
  cases fuel with
  | zero => rfl
  | succ n => rw [readFramesH, (nextFrame_eq_none_iff bs).mpr h]

theorem read_error {fuel : Nat} {reg : Registry} {bs body rest : Bytes} {e : Err}
    (hn : nextFrame bs = some (body, rest)) (hd : decodeFrame reg body = .error e) :
    readFramesH hashOf (fuel + 1) reg bs = ([], .error e) := by
  rw [readFramesH, hn]
  simp only [hd]

/-- enough fuel is enough: each frame consumes at least 4 bytes -/
theorem readFramesH_fuel (hashOf : PyStr → List (PyStr × PyStr) → Nat) :
    ∀ (f1 f2 : Nat) (reg : Registry) (bs : Bytes), bs.length < 4 * f1 + 4 → bs.length < 4 * f2 + 4 →
      readFramesH hashOf f1 reg bs = readFramesH hashOf f2 reg bs := by
  intro f1
  induction f1 with
  | zero => intro f2 reg bs h1 _; rw [read_short h1, read_short h1]
  | succ n ih =>
    intro f2 reg bs h1 h2
    cases f2 with
    | zero => rw [read_short h2, read_short h2]
    | succ m =>
      simp only [readFramesH]
      cases hn : nextFrame bs with
      | none => rfl
      | some br =>
        have hr := nextFrame_rest_length hn
        simp only [ih m _ br.2 (Nat.lt_of_add_lt_add_right (Nat.lt_of_le_of_lt hr h1))
          (Nat.lt_of_add_lt_add_right (Nat.lt_of_le_of_lt hr h2))]

theorem framesOK_append {reg : Registry} (a b : List AFrame) :
    FramesOK hashOf reg (a ++ b) ↔ FramesOK hashOf reg a ∧ FramesOK hashOf (consumeReg reg a) b := by
  induction a generalizing reg with
  | nil => simp [FramesOK, consumeReg]
  | cons f fs ih => cases f <;> simp [FramesOK, consumeReg, ih, and_assoc]

theorem framesOK_descs (reg : Registry) (ds : List Desc) :
    FramesOK hashOf reg (ds.map .desc) ↔ ∀ d ∈ ds, DescOK d ∧ hashOf d.name d.fields = d.hash := by
  induction ds generalizing reg with
  | nil => simp [FramesOK]
  | cons d ds ih => simp [FramesOK, ih]

theorem framesOK_emit {reg : Registry} {o : PV} (hobj : IsObj o)
    (hds : ∀ d' ∈ (newDescs reg (descsOf o)).2, DescOK d' ∧ hashOf d'.name d'.fields = d'.hash)
    (hok : PVOK (newDescs reg (descsOf o)).1 o) : FramesOK hashOf reg (emit reg o).2 := by
  rw [emit, framesOK_append, framesOK_descs, consumeReg_newDescs]
  exact ⟨hds, ⟨hobj, hok⟩, trivial⟩

theorem encFrame_WF {reg : Registry} {a : AFrame} {b : Bytes} (hok : FramesOK hashOf reg [a])
    (hb : encFrame a = some b) : ∃ m, WF m ∧ b = enc m := by
  cases a with
  | desc d =>
    obtain ⟨m, hm, rfl⟩ := Option.map_eq_some_iff.mp hb
    exact ⟨m, (fromM_desc reg hok.1.1 hm (Nat.le_refl _)).1, rfl⟩
  | obj o => obtain ⟨m, hm, rfl⟩ := Option.map_eq_some_iff.mp hb; exact ⟨m, toM_WF hok.1.2 hm, rfl⟩

theorem read_frame {a : AFrame} {b : Bytes} {reg : Registry} (rest : Bytes) (fuel : Nat)
    (hok : FramesOK hashOf reg [a]) (ha : encFrame a = some b) (hl : b.length < 4294967296) :
    readFramesH hashOf (fuel + 1) reg (frameBytes b ++ rest) =
      (rvOfList (objsOf [a]) ++ (readFramesH hashOf fuel (consumeReg reg [a]) rest).1,
       (readFramesH hashOf fuel (consumeReg reg [a]) rest).2) := by
  rw [readFramesH, nextFrame_frame b _ hl]
  cases a with
  | desc d =>
    obtain ⟨m, hm, rfl⟩ := Option.map_eq_some_iff.mp ha
    obtain ⟨⟨hd, hhash⟩, -⟩ := hok
    simp only [decodeFrame_desc reg hd hm, hhash]
    rfl
  | obj o =>
    obtain ⟨m, hm, rfl⟩ := Option.map_eq_some_iff.mp ha
    obtain ⟨⟨hobj, hpv⟩, -⟩ := hok
    simp only [decodeFrame_obj hpv hm]
    rcases hobj with ⟨d, vals, rfl⟩ | ⟨name, ms, rfl⟩ <;> rfl

/-- Here and in all that follows the fuel is counted per FRAME (`fuel + bodies.length`); `readAll` gives itself one unit
    per byte, and `readFramesH_fuel` reconciles the two (in `readAll_header`). -/
theorem read_frames {afs : List AFrame} {bodies : List Bytes} {reg : Registry} (rest : Bytes) (fuel : Nat)
    (hok : FramesOK hashOf reg afs) (hb : afs.mapM encFrame = some bodies)
    (hsz : ∀ b ∈ bodies, b.length < 4294967296) :
    readFramesH hashOf (fuel + bodies.length) reg (streamOf bodies ++ rest) =
      (rvOfList (objsOf afs) ++ (readFramesH hashOf fuel (consumeReg reg afs) rest).1,
       (readFramesH hashOf fuel (consumeReg reg afs) rest).2) := by
  induction afs generalizing bodies reg with
  | nil =>
    obtain rfl : [] = bodies := by simpa using hb
    rfl
  | cons a as ih =>
    obtain ⟨b, bs, ha, hbs, rfl⟩ := mapM_cons_eq_some.mp hb
    obtain ⟨hok1, hok2⟩ := (framesOK_append [a] as).mp hok
    rw [streamOf_cons, List.append_assoc]
    show readFramesH hashOf (fuel + bs.length + 1) reg _ = _
    obtain ⟨hl, hsz⟩ := List.forall_mem_cons.mp hsz
    rw [read_frame _ _ hok1 ha hl, ih hok2 hbs hsz]
    cases a <;> rfl
end

/-- The frames of one `write`; an end result of its own (the history theorems go through `read_frames` directly). -/
theorem read_write (hashOf : PyStr → List (PyStr × PyStr) → Nat) (st st' : WState) (o : PV) (hobj : IsObj o)
    (fs : List Bytes) (rest : Bytes) (fuel : Nat)
    (hw : write st o = some (st', fs)) (hhdr : st.headerWritten = true)
    (hds : ∀ d' ∈ (newDescs st.registry (descsOf o)).2, DescOK d' ∧ hashOf d'.name d'.fields = d'.hash)
    (hok : PVOK st'.registry o)
    (hsz : ∀ b ∈ fs, b.length < 4294967296) :
    readFramesH hashOf (fuel + fs.length) st.registry (streamOf fs ++ rest) =
      (rvOf o :: (readFramesH hashOf fuel st'.registry rest).1,
       (readFramesH hashOf fuel st'.registry rest).2) := by
  obtain ⟨bs, hb, rfl, rfl⟩ := writeEntry_some (e := (o, none)) hw
  rw [headerFrames_of_written hhdr] at hsz ⊢
  have := read_frames rest fuel (framesOK_emit hobj hds hok) hb hsz
  rwa [consumeReg_emit, objsOf_emit] at this

end FlowRecord.Stream
